import Model.Objective
import Proofs.Real
import Proofs.Folds
import Proofs.TensorWf
import Proofs.Zip

/-!
# C06 — objective functions return the documented loss and gradient

Statements about `Obj.loss`, `Obj.term`, `Obj.grad`, `Obj.reduce` (`Model/Objective.lean`) at `ℝ`.
`a` is the target ("actual"), `p` the prediction, `n` the number of targets.
-/

namespace C06
open Obj Scalar RealScalar

theorem eps_def : (Obj.eps : ℝ) = 1 / 1000000 := by
  unfold Obj.eps; rw [lit_eq]; norm_num

theorem clampP_def (p : ℝ) : Obj.clampP p = max (1 / 1000000) (min p (1 - 1 / 1000000)) := by
  unfold Obj.clampP
  rw [clampRaw_eq _ _ _ (by rw [eps_def]; norm_num), eps_def]

theorem clampP_interior (p : ℝ) (h1 : 1 / 1000000 ≤ p) (h2 : p ≤ 1 - 1 / 1000000) : Obj.clampP p = p := by
  rw [clampP_def, min_eq_left h2, max_eq_right h1]

theorem clampP_pos (p : ℝ) : 0 < Obj.clampP p := by
  rw [clampP_def]; exact lt_of_lt_of_le (by norm_num) (le_max_left _ _)

theorem clampP_lt_one (p : ℝ) : Obj.clampP p < 1 := by
  rw [clampP_def]
  apply max_lt (by norm_num)
  exact lt_of_le_of_lt (min_le_right _ _) (by norm_num)

theorem interior_range {p : ℝ} (h1 : 1 / 1000000 < p) (h2 : p < 1 - 1 / 1000000) : 0 < p ∧ p < 1 := by
  rw [← clampP_interior p h1.le h2.le]
  exact ⟨clampP_pos p, clampP_lt_one p⟩

theorem clampP_eventuallyEq (p : ℝ) (h1 : 1 / 1000000 < p) (h2 : p < 1 - 1 / 1000000) :
    ∀ᶠ q in nhds p, Obj.clampP q = q := by
  filter_upwards [Ioo_mem_nhds h1 h2] with q hq
  exact clampP_interior q hq.1.le hq.2.le

/-! ### definedness: every `ln` and every division is applied inside its domain, for **all** real
predictions and targets — in particular for targets and predictions that are exactly 0 or 1 -/

/-- cross-entropy, binary cross-entropy: the arguments of both logarithms are positive -/
theorem ce_ln_args_pos (p : ℝ) : 0 < Obj.clampP p ∧ 0 < 1 - Obj.clampP p :=
  ⟨clampP_pos p, sub_pos.mpr (clampP_lt_one p)⟩

/-- binary cross-entropy gradient: the divisor `q (1 - q)` is positive -/
theorem bce_divisor_pos (p : ℝ) : 0 < Obj.clampP p * (1 - Obj.clampP p) :=
  mul_pos (clampP_pos p) (sub_pos.mpr (clampP_lt_one p))

/-- KL-divergence: a positive target gives `ln` a positive argument (a zero target contributes exactly 0 without
    evaluating a logarithm: `kl_zero_target`) -/
theorem kl_ln_arg_pos (a p : ℝ) (ha : 0 < a) : 0 < a / Obj.clampP p := div_pos ha (clampP_pos p)

theorem kl_divisor_pos (p : ℝ) : Obj.clampP p ≠ 0 := (clampP_pos p).ne'

theorem term_ae (n a p : ℝ) : Obj.term .ae n a p = |a - p| := rfl
theorem term_mae (n a p : ℝ) : Obj.term .mae n a p = |a - p| := rfl
theorem term_mse (n a p : ℝ) : Obj.term .mse n a p = (a - p) ^ 2 / n := by rw [Obj.term, sq_eq]
theorem term_rmse (n a p : ℝ) : Obj.term .rmse n a p = (a - p) ^ 2 := by rw [Obj.term, sq_eq]
theorem term_ce (n a p : ℝ) : Obj.term .ce n a p = a * Real.log (Obj.clampP p) := rfl
theorem term_bce (n a p : ℝ) :
    Obj.term .bce n a p = a * Real.log (Obj.clampP p) + (1 - a) * Real.log (1 - Obj.clampP p) := rfl
theorem term_kl (n a p : ℝ) (ha : a ≠ 0) : Obj.term .kl n a p = a * Real.log (a / Obj.clampP p) := by
  simp [Obj.term, ha]

theorem grad_sign (a p : ℝ) : Obj.signGrad a p = if a = p then 0 else if p < a then -1 else 1 := by
  unfold Obj.signGrad
  by_cases h : a = p <;> simp [h]

theorem grad_ae (n a p : ℝ) : Obj.grad .ae n a p = Obj.signGrad a p := rfl
theorem grad_mae (n a p : ℝ) : Obj.grad .mae n a p = Obj.signGrad a p := rfl
theorem grad_mse (n a p : ℝ) : Obj.grad .mse n a p = -2 * (a - p) / n := by rw [Obj.grad, two_eq]
theorem grad_rmse (n a p : ℝ) (h : a ≠ p) : Obj.grad .rmse n a p = -(a - p) / (|a - p| * n) := by
  simp [Obj.grad, h, sq_eq, Real.sqrt_sq_eq_abs]
theorem grad_ce (n a p : ℝ) : Obj.grad .ce n a p = p - a := rfl
theorem grad_bce (n a p : ℝ) :
    Obj.grad .bce n a p = (Obj.clampP p - a) / (Obj.clampP p * (1 - Obj.clampP p)) := rfl
theorem grad_kl (n a p : ℝ) : Obj.grad .kl n a p = -a / Obj.clampP p := rfl

theorem reduce_ae (n : ℝ) (ts : List ℝ) : Obj.reduce .ae n ts = ts.sum := Folds.sumL_eq ts
theorem reduce_mae (n : ℝ) (ts : List ℝ) : Obj.reduce .mae n ts = ts.sum / n := by rw [Obj.reduce, Folds.sumL_eq]
theorem reduce_mse (n : ℝ) (ts : List ℝ) : Obj.reduce .mse n ts = ts.sum := Folds.sumL_eq ts
theorem reduce_rmse (n : ℝ) (ts : List ℝ) : Obj.reduce .rmse n ts = Real.sqrt (ts.sum / n) := by
  rw [Obj.reduce, Folds.sumL_eq, sqrt_eq]
theorem reduce_ce (n : ℝ) (ts : List ℝ) : Obj.reduce .ce n ts = -ts.sum := by rw [Obj.reduce, Folds.sumL_eq]
theorem reduce_bce (n : ℝ) (ts : List ℝ) : Obj.reduce .bce n ts = -ts.sum := by rw [Obj.reduce, Folds.sumL_eq]
theorem reduce_kl (n : ℝ) (ts : List ℝ) : Obj.reduce .kl n ts = ts.sum := Folds.sumL_eq ts

/-- flat predictions/targets: the loss is the reduction of the per-element terms over the pairs, the
    gradient is the per-element gradient with the prediction's shape -/
theorem loss_flat (o : Obj) (p t : V1 ℝ) (h : p.length = t.length) :
    Obj.loss o none (Tensor.single p) (Tensor.single t) =
      .ok (Obj.reduce o (t.length : ℝ) (List.zipWith (fun a q => Obj.term o (t.length : ℝ) a q) t p),
           ⟨.single p.length, .single (List.zipWith (fun a q => Obj.grad o (t.length : ℝ) a q) t p)⟩) := by
  simp only [Obj.loss, Tensor.single, Tensor.getFlat, List.length_zipWith, h, min_self, ofNat_eq]

/-- with a clamp configured (`lo ≤ hi`) the loss is unchanged and each gradient component is the
    unclamped value limited to the interval -/
theorem loss_flat_clamped (o : Obj) (lo hi : ℝ) (hl : lo ≤ hi) (p t : V1 ℝ) (h : p.length = t.length) :
    Obj.loss o (some (lo, hi)) (Tensor.single p) (Tensor.single t) =
      .ok (Obj.reduce o (t.length : ℝ) (List.zipWith (fun a q => Obj.term o (t.length : ℝ) a q) t p),
           ⟨.single p.length, .single ((List.zipWith (fun a q => Obj.grad o (t.length : ℝ) a q) t p).map
              (fun g => max lo (min g hi)))⟩) := by
  have hle : Scalar.le lo hi = true := (le_iff lo hi).mpr hl
  have hc : (fun x : ℝ => Scalar.clampRaw x lo hi) = (fun g => max lo (min g hi)) := by
    funext x; exact clampRaw_eq x lo hi hl
  simp only [Obj.loss, Tensor.single, Tensor.getFlat, Tensor.clamp, hle, if_true, Tensor.mapData, hc,
    List.length_zipWith, h, min_self, ofNat_eq]

/-- the 3-D arm computes the same loss and the same gradient values as the flat arm on the
    flattening, and the gradient has the prediction's (3-D) shape (`c, h ≥ 1`: `Tensor::triple` reads the extents off
    `data[0][0]`, `Tensor.triple_of_dims`) -/
theorem loss_triple_eq_flat (o : Obj) (c h w : Nat) (p t : V3 ℝ)
    (hp : L.Dims3 p c h w) (ht : L.Dims3 t c h w) (hc : 0 < c) (hh : 0 < h) :
    ∃ l g, Obj.loss o none (⟨.triple c h w, .triple p⟩ : Tensor ℝ) ⟨.triple c h w, .triple t⟩ = .ok (l, g) ∧
      g.shape = .triple c h w ∧ g.Wf ∧
      Obj.loss o none (Tensor.single (L.flatten3 p)) (Tensor.single (L.flatten3 t)) =
        .ok (l, ⟨.single (L.flatten3 p).length, .single g.flat⟩) := by
  have hd := L.zip3_dims (fun a q => Obj.grad o ((L.flatten3 t).length : ℝ) a q) ht hp
  have hlen : (L.flatten3 p).length = (L.flatten3 t).length := by
    rw [L.length_flatten3 hp, L.length_flatten3 ht]
  refine ⟨Obj.reduce o ((L.flatten3 t).length : ℝ) (List.zipWith (fun a q => Obj.term o ((L.flatten3 t).length : ℝ) a q) (L.flatten3 t) (L.flatten3 p)),
    ⟨.triple c h w, .triple (L.zip3 (fun a q => Obj.grad o ((L.flatten3 t).length : ℝ) a q) t p)⟩, ?_, rfl, hd, ?_⟩
  · simp only [Obj.loss, Tensor.getFlat, ofNat_eq]
    rw [L.zipWith3_eq_zip3 _ ht hp, Tensor.triple_of_dims hd hc hh]
  · rw [loss_flat o _ _ hlen]
    simp only [Tensor.flat, L.zip3_flat _ ht hp]

/-! ### the gradient is the derivative of the reported loss (AE, MSE, binary cross-entropy, KL)

The reported loss is a sum over the elements (with the sign of `reduce`), so its partial derivative with
respect to prediction `pᵢ` is the derivative of the `i`-th contribution, stated here per element. -/

/-- absolute error, away from the kink `p = a` -/
theorem ae_hasDerivAt (n a p : ℝ) (h : a ≠ p) :
    HasDerivAt (fun q => Obj.term .ae n a q) (Obj.grad .ae n a p) p := by
  -- `|a − q|` is the kink function with left slope `−1`, after `q ↦ a − q`
  have hk := (hasDerivAt_kink (-1) (sub_ne_zero.mpr h)).comp p ((hasDerivAt_id p).const_sub a)
  refine (hk.congr_deriv ?_).congr_of_eventuallyEq (.of_forall fun q => ?_)
  · rw [grad_ae, grad_sign, if_neg h]
    simp only [sub_pos]
    split <;> norm_num
  · simp only [term_ae, Function.comp]
    split
    · exact abs_of_pos ‹_›
    · rw [abs_of_nonpos (not_lt.mp ‹_›), neg_one_mul]

theorem mse_hasDerivAt (n a p : ℝ) :
    HasDerivAt (fun q => Obj.term .mse n a q) (Obj.grad .mse n a p) p := by
  simp only [term_mse, grad_mse]
  refine ((((hasDerivAt_id p).const_sub a).pow 2).div_const n).congr_deriv ?_
  simp only [id]; ring

/-- binary cross-entropy (contribution `-(a ln p + (1-a) ln (1-p))`), strictly inside the clamp -/
theorem bce_hasDerivAt (n a p : ℝ) (h1 : 1 / 1000000 < p) (h2 : p < 1 - 1 / 1000000) :
    HasDerivAt (fun q => -(Obj.term .bce n a q)) (Obj.grad .bce n a p) p := by
  obtain ⟨hpos, hlt⟩ := interior_range h1 h2
  have hp0 : p ≠ 0 := hpos.ne'
  have hp1 : 1 - p ≠ 0 := (sub_pos.mpr hlt).ne'
  have hd := (((Real.hasDerivAt_log hp0).const_mul a).add
    ((((hasDerivAt_id p).const_sub 1).log hp1).const_mul (1 - a))).neg
  have e : Obj.grad .bce n a p = -(a * p⁻¹ + (1 - a) * (-1 / (1 - p))) := by
    rw [grad_bce, clampP_interior p h1.le h2.le]
    field_simp
    ring
  rw [e]
  refine hd.congr_of_eventuallyEq ((clampP_eventuallyEq p h1 h2).mono fun q hq => ?_)
  simp only [term_bce, hq]; rfl

/-- KL-divergence (contribution `a ln (a / p)`), target `a > 0`, strictly inside the clamp -/
theorem kl_hasDerivAt (n a p : ℝ) (ha : 0 < a) (h1 : 1 / 1000000 < p) (h2 : p < 1 - 1 / 1000000) :
    HasDerivAt (fun q => Obj.term .kl n a q) (Obj.grad .kl n a p) p := by
  have hp : 0 < p := (interior_range h1 h2).1
  -- on positive arguments `a · ln (a / q) = a · (ln a − ln q)`
  have hd := (((Real.hasDerivAt_log hp.ne').const_sub (Real.log a)).const_mul a)
  have e : Obj.grad .kl n a p = a * -p⁻¹ := by
    rw [grad_kl, clampP_interior p h1.le h2.le]; ring
  rw [e]
  refine hd.congr_of_eventuallyEq ?_
  filter_upwards [clampP_eventuallyEq p h1 h2, lt_mem_nhds hp] with q hq hq0
  rw [term_kl n a q ha.ne', hq, Real.log_div ha.ne' hq0.ne']

/-- a zero target contributes a constant 0 and the gradient `-0 / p = 0` -/
theorem kl_zero_target (n p : ℝ) : Obj.term .kl n 0 p = 0 ∧ Obj.grad .kl n 0 p = 0 := by
  constructor
  · simp [Obj.term]
  · simp [grad_kl]

/-! non-vacuity -/
example : (1 / 1000000 : ℝ) < 0.5 ∧ (0.5 : ℝ) < 1 - 1 / 1000000 := by norm_num
example : L.Dims3 ([[[1, 2]]] : V3 ℝ) 1 1 2 :=
  ⟨rfl, List.forall_mem_singleton.mpr ⟨rfl, List.forall_mem_singleton.mpr rfl⟩⟩

end C06
