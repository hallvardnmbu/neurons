import Proofs.MaxpoolForward
import Proofs.Folds
import Proofs.Zip
import Proofs.Rechunk
import Proofs.Walk

/-!
# C02 — each layer's forward pass computes its defining operator

Over `ℝ` (rounding aside), for every configuration: the dense pre-activation is `W·x + b` (`dense_pre_spec`); the
convolution's is the zero-padded, strided, dilated cross-correlation (`convolveAt_spec` for the loops, `pad3d_get` for
the padding, `conv_cross_correlation` for both); the deconvolution's scatter loops are the transposed convolution in
gather form (`deconv_gather`, by the point-wise scatter lemma); every max-pool output is the maximum of its window,
attained at the recorded index (`maxpool_window_dominates`, `maxpool_window_attained`,
`maxpool_output_is_window_scan`); a flat vector enters a spatial layer as the tensor with the same row-major content
(`entry_flat_eq_spatial`); without skip and loop connections `predict` is the composition of the layers
(`predict_is_composition`).
-/

open Finset

namespace C02
open Scalar RealScalar

/-- `pre[i] = Σ_j W[i][j]·x[j] + b[i]` -/
theorem dense_pre_spec (l : DenseLayer ℝ) (W : V2 ℝ) (b x : V1 ℝ) (r c : Nat)
    (hw : l.weights = ⟨.double r c, .double W⟩) (hb : l.bias = some ⟨.single r, .single b⟩)
    (hWr : W.length = r) (hbl : b.length = r) (pre post : Tensor ℝ)
    (h : l.forward (Tensor.single x) = .ok (pre, post)) :
    pre = ⟨.single r, .single (List.zipWith (· + ·) (W.map (fun row => (List.zipWith (· * ·) row x).sum)) b)⟩ := by
  unfold DenseLayer.forward at h
  simp only [hw, hb, Tensor.dot, Tensor.single] at h
  have e1 : (Tensor.add (⟨.single W.length, .single (W.map (fun row => Tensor.dotRow row x))⟩ : Tensor ℝ) ⟨.single r, .single b⟩) =
      .ok ⟨.single W.length, .single (L.zip1 (· + ·) (W.map (fun row => Tensor.dotRow row x)) b)⟩ := by
    simp [Tensor.add, Tensor.zipOp, hWr]
  rw [e1] at h
  simp only [] at h
  split at h
  · cases h
  · split at h
    · cases h
    · simp only [Except.ok.injEq, Prod.mk.injEq] at h
      rw [← h.1, hWr]
      congr 2
      have hz := (L.zip1_spec (· + ·) (W.map (fun row => Tensor.dotRow row x)) b (by simp [hWr, hbl])).1
      rw [hz]
      congr 1
      apply List.map_congr_left
      intro row _
      unfold Tensor.dotRow
      rw [Folds.sumL_eq]

theorem convolveAt_spec (l : Conv ℝ) (x k : V3 ℝ) (kc kh kw ih iw i j : ℕ) :
    Conv.convolveAt l x k kc kh kw ih iw i j =
      ∑ c ∈ range kc, ∑ h ∈ range kh, ∑ w ∈ range kw,
        (if i * l.stride.1 + h * l.dilation.1 < ih ∧ j * l.stride.2 + w * l.dilation.2 < iw
         then L.get3D 0 k c h w * L.get3D 0 x c (i * l.stride.1 + h * l.dilation.1) (j * l.stride.2 + w * l.dilation.2)
         else 0) := by
  simp only [Conv.convolveAt, Folds.guarded_fold, Folds.foldl_range_add, zero_add]

section pad
variable {β : Type} {α : Type} [Scalar α]

theorem padRow_getD (row : V1 α) (n off j : ℕ) :
    (Tensor.padRow row n off)[j]?.getD 0 = if off ≤ j ∧ j < n then row[j - off]?.getD 0 else 0 := by
  unfold Tensor.padRow
  rw [L.getD_map_range, L.get?_eq, List.getElem?_take]
  by_cases hj : j < n
  · simp only [hj, Nat.lt_of_le_of_lt (Nat.sub_le j off) hj, if_true, and_true]
  · rw [if_neg hj, if_neg (fun h => hj h.2)]

theorem padChannel_getD (ch : V2 α) (H W dh dw i j : ℕ) :
    ((Tensor.padChannel ch H W dh dw)[i]?.getD [])[j]?.getD 0 =
      if dh ≤ i ∧ i < H ∧ dw ≤ j ∧ j < W then (ch[i - dh]?.getD [])[j - dw]?.getD 0 else 0 := by
  unfold Tensor.padChannel
  rw [L.getD_map_range, L.get?_eq]
  by_cases h1 : i < H
  · by_cases h2 : dh ≤ i
    · rw [if_pos h1, if_pos h2, List.getElem?_take, if_pos (Nat.lt_of_le_of_lt (Nat.sub_le i dh) h1)]
      simp only [h1, h2, true_and]
      cases ch[i - dh]? with
      | some row => exact padRow_getD row W dw j
      | none => simp [L.getD_replicate]
    · rw [if_pos h1, if_neg h2, if_neg (fun h => h2 h.1), L.getD_replicate]
  · rw [if_neg h1, if_neg (fun h => h1 h.2.1)]; rfl

theorem get3D_map_padChannel (x : V3 α) (H W dh dw c i j : ℕ) :
    L.get3D 0 (x.map (fun ch => Tensor.padChannel ch H W dh dw)) c i j =
      if dh ≤ i ∧ i < H ∧ dw ≤ j ∧ j < W then L.get3D 0 x c (i - dh) (j - dw) else 0 := by
  simp only [L.get3D_eq, List.getD_eq_getElem?_getD, List.getElem?_map]
  cases x[c]? with
  | some ch => exact padChannel_getD ch H W dh dw i j
  | none => simp

theorem padOutOfRange_of_dims (x : V3 β) (c h w H W dh dw : ℕ) (hx : L.Dims3 x c h w) (hH : h + dh ≤ H) (hW : w + dw ≤ W) :
    Tensor.padOutOfRange x H W dh dw = false := by
  unfold Tensor.padOutOfRange
  rw [List.any_eq_false]
  intro ch hch
  have hd := hx.2 ch hch
  simp only [Bool.or_eq_true, List.any_eq_true, decide_eq_true_eq, not_or, not_exists, not_and, not_lt, List.length_take]
  have hmin : ∀ {b d n : ℕ}, b + d ≤ n → min n b + d ≤ n := fun h =>
    Nat.le_trans (Nat.add_le_add_right (Nat.min_le_right _ _) _) h
  exact ⟨fun row hrow => hmin (hd.2 row (List.mem_of_mem_take hrow) ▸ hW), hmin (hd.1 ▸ hH)⟩

/-- the offset `pad3d` computes for a target `2p` larger than the data is `p` -/
theorem centre_offset (n p : ℕ) : (if n + 2 * p > n then (n + 2 * p - n) / 2 else 0) = p := by
  rw [Nat.add_sub_cancel_left, Nat.mul_div_cancel_left _ (by decide)]
  split
  · rfl
  · rename_i h
    exact (Nat.eq_zero_of_not_pos fun hp => h (Nat.lt_add_of_pos_right (Nat.mul_pos Nat.two_pos hp))).symm

theorem pad3d_of_dims (x : V3 α) (c ih iw p0 p1 : ℕ) (hx : L.Dims3 x c ih iw) (hc : 0 < c) (hih : 0 < ih) :
    Tensor.pad3d x (ih + 2 * p0) (iw + 2 * p1) =
      .ok (x.map (fun ch => Tensor.padChannel ch (ih + 2 * p0) (iw + 2 * p1) p0 p1)) := by
  have hfit : ∀ n p : ℕ, n + p ≤ n + 2 * p := fun n p => Nat.add_le_add_left (Nat.le_mul_of_pos_left p Nat.two_pos) n
  have hok := padOutOfRange_of_dims x c ih iw (ih + 2 * p0) (iw + 2 * p1) p0 p1 hx (hfit ih p0) (hfit iw p1)
  obtain ⟨r, m, rest, rfl, h1, h2⟩ := L.dims3_cons hx hc hih
  simp only [Tensor.pad3d, h1, h2, centre_offset, hok]; rfl

theorem get3D_outside (x : V3 α) (c h w ch i j : ℕ) (hx : L.Dims3 x c h w) (hij : h ≤ i ∨ w ≤ j) :
    L.get3D 0 x ch i j = 0 := by
  simp only [L.get3D_eq, List.getD_eq_getElem?_getD]
  cases hc : x[ch]? with
  | none => rfl
  | some m =>
    have hm := hx.2 m (List.mem_of_getElem? hc)
    rw [Option.getD_some]
    cases hr : m[i]? with
    | none => rfl
    | some r =>
      have hw : r.length = w := hm.2 r (List.mem_of_getElem? hr)
      have hi : i < h := hm.1 ▸ (List.getElem?_eq_some_iff.mp hr).1
      rw [Option.getD_some, List.getElem?_eq_none (hw ▸ hij.resolve_left (Nat.not_le.mpr hi))]; rfl

theorem lt_padded {p n k : ℕ} (hk : k < p + n) : k < n + 2 * p :=
  Nat.lt_of_lt_of_le hk (by rw [Nat.add_comm, Nat.two_mul, ← Nat.add_assoc]; exact Nat.le_add_right _ _)

/-- **zero padding**: the padded tensor holds the input shifted by `(p₀, p₁)` and zero elsewhere -/
theorem pad3d_get (x : V3 ℝ) (c ih iw p0 p1 : ℕ) (hx : L.Dims3 x c ih iw) (hc : 0 < c) (hih : 0 < ih) :
    ∃ y, Tensor.pad3d x (ih + 2 * p0) (iw + 2 * p1) = .ok y ∧
      ∀ ch i j, L.get3D 0 y ch i j =
        if p0 ≤ i ∧ i < p0 + ih ∧ p1 ≤ j ∧ j < p1 + iw then L.get3D 0 x ch (i - p0) (j - p1) else 0 := by
  refine ⟨_, pad3d_of_dims x c ih iw p0 p1 hx hc hih, fun ch i j => ?_⟩
  rw [get3D_map_padChannel]
  by_cases h : p0 ≤ i ∧ i < p0 + ih ∧ p1 ≤ j ∧ j < p1 + iw
  · rw [if_pos h, if_pos ⟨h.1, lt_padded h.2.1, h.2.2.1, lt_padded h.2.2.2⟩]
  · rw [if_neg h]
    split
    · -- inside the padded frame but not over the data: the data is read past its end
      rename_i hs
      have hpast : p0 + ih ≤ i ∨ p1 + iw ≤ j :=
        (not_and_or.mp fun hh => h ⟨hs.1, hh.1, hs.2.2.1, hh.2⟩).imp Nat.not_lt.mp Nat.not_lt.mp
      exact get3D_outside x c ih iw ch (i - p0) (j - p1) hx (hpast.imp Nat.le_sub_of_add_le' Nat.le_sub_of_add_le')
    · rfl

end pad

/-- **the convolution is the zero-padded, strided, dilated cross-correlation**: with `X̃` the input
    extended by zero, `pre[f][i][j] = Σ_{c,h,w} K_f[c][h][w] · X̃[c][i·s₀ + h·d₀ − p₀][j·s₁ + w·d₁ − p₁]` -/
theorem conv_cross_correlation (l : Conv ℝ) (x : V3 ℝ) (c ih iw : ℕ) (hx : L.Dims3 x c ih iw) (hc : 0 < c) (hih : 0 < ih)
    (k : V3 ℝ) (kc kh kw i j : ℕ) :
    ∃ xp, Tensor.pad3d x (ih + 2 * l.padding.1) (iw + 2 * l.padding.2) = .ok xp ∧
      Conv.convolveAt l xp k kc kh kw (ih + 2 * l.padding.1) (iw + 2 * l.padding.2) i j =
        ∑ cc ∈ range kc, ∑ h ∈ range kh, ∑ w ∈ range kw,
          L.get3D 0 k cc h w *
            (if l.padding.1 ≤ i * l.stride.1 + h * l.dilation.1 ∧ i * l.stride.1 + h * l.dilation.1 < l.padding.1 + ih ∧
                l.padding.2 ≤ j * l.stride.2 + w * l.dilation.2 ∧ j * l.stride.2 + w * l.dilation.2 < l.padding.2 + iw
             then L.get3D 0 x cc (i * l.stride.1 + h * l.dilation.1 - l.padding.1) (j * l.stride.2 + w * l.dilation.2 - l.padding.2)
             else 0) := by
  obtain ⟨xp, hp, hget⟩ := pad3d_get x c ih iw l.padding.1 l.padding.2 hx hc hih
  refine ⟨xp, hp, ?_⟩
  rw [convolveAt_spec]
  apply Finset.sum_congr rfl; intro cc _
  apply Finset.sum_congr rfl; intro h _
  apply Finset.sum_congr rfl; intro w _
  rw [hget]
  by_cases hg : i * l.stride.1 + h * l.dilation.1 < ih + 2 * l.padding.1 ∧ j * l.stride.2 + w * l.dilation.2 < iw + 2 * l.padding.2
  · rw [if_pos hg]
  · rw [if_neg hg]
    -- outside the padded extent the extended input is zero anyway
    rw [if_neg fun hh => hg ⟨lt_padded hh.2.1, lt_padded hh.2.2.2⟩]
    ring

/-- the updates the deconvolution's scatter loops perform, in loop order -/
noncomputable def deconvUpdates (x : V3 ℝ) (ks : List (V3 ℝ)) (kf kc : ℕ) (tp : List (ℕ × ℕ × ℕ × ℕ × ℕ × ℕ)) : List Scatter.Upd :=
  (List.range kf).flatMap (fun k => (List.range kc).flatMap (fun c => tp.map (fun t =>
    ⟨k, t.2.2.2.2.1, t.2.2.2.2.2, L.get3D 0 x c t.1 t.2.1 * L.get4D 0 ks k c t.2.2.1 t.2.2.2.1⟩)))

theorem scatter_as_updates (x : V3 ℝ) (ks : List (V3 ℝ)) (kf kc : ℕ) (tp : List (ℕ × ℕ × ℕ × ℕ × ℕ × ℕ)) (oh ow : ℕ) :
    Deconv.scatter x ks kf kc tp oh ow =
      (deconvUpdates x ks kf kc tp).foldl (fun acc u => L.mod3 (· + u.v) acc u.c u.i u.j) (L.replicate3 kf oh ow 0) := by
  simp only [Deconv.scatter, deconvUpdates, List.foldl_flatMap, List.foldl_map]

/-- every tap the deconvolution visits is inside the output (`oi < oh`, `oj < ow`) and satisfies
    `oi = i·s₀ + ki − p₀`, `oj = j·s₁ + kj − p₁` with `i < ih`, `j < iw`, `ki < kh`, `kj < kw` -/
theorem mem_taps (l : Deconv ℝ) (ih iw kh kw oh ow : ℕ) (t : ℕ × ℕ × ℕ × ℕ × ℕ × ℕ) :
    t ∈ Deconv.taps l ih iw kh kw oh ow ↔
      t.1 < ih ∧ t.2.1 < iw ∧ t.2.2.1 < kh ∧ t.2.2.2.1 < kw ∧
      l.padding.1 ≤ t.1 * l.stride.1 + t.2.2.1 ∧ l.padding.2 ≤ t.2.1 * l.stride.2 + t.2.2.2.1 ∧
      t.2.2.2.2.1 = t.1 * l.stride.1 + t.2.2.1 - l.padding.1 ∧ t.2.2.2.2.2 = t.2.1 * l.stride.2 + t.2.2.2.1 - l.padding.2 ∧
      t.2.2.2.2.1 < oh ∧ t.2.2.2.2.2 < ow := by
  obtain ⟨i, j, ki, kj, oi, oj⟩ := t
  unfold Deconv.taps
  simp only [List.mem_flatMap, List.mem_range, List.mem_filterMap]
  constructor
  · rintro ⟨i', hi, j', hj, ki', hki, kj', hkj, h⟩
    split at h
    · rename_i hcond
      simp only [Option.some.injEq, Prod.mk.injEq] at h
      obtain ⟨rfl, rfl, rfl, rfl, rfl, rfl⟩ := h
      exact ⟨hi, hj, hki, hkj, hcond.1, hcond.2.1, rfl, rfl, hcond.2.2.1, hcond.2.2.2⟩
    · cases h
  · rintro ⟨hi, hj, hki, hkj, hp1, hp2, ho1, ho2, hb1, hb2⟩
    refine ⟨i, hi, j, hj, ki, hki, kj, hkj, ?_⟩
    subst ho1 ho2
    rw [if_pos ⟨hp1, hp2, hb1, hb2⟩]

theorem deconvUpdates_bounds (l : Deconv ℝ) (x : V3 ℝ) (ks : List (V3 ℝ)) (kf kc ih iw kh kw oh ow : ℕ) :
    ∀ u ∈ deconvUpdates x ks kf kc (Deconv.taps l ih iw kh kw oh ow), u.c < kf ∧ u.i < oh ∧ u.j < ow := by
  intro u hu
  unfold deconvUpdates at hu
  simp only [List.mem_flatMap, List.mem_range, List.mem_map] at hu
  obtain ⟨k, hk, c, _, t, ht, rfl⟩ := hu
  have := (mem_taps l ih iw kh kw oh ow t).mp ht
  exact ⟨hk, this.2.2.2.2.2.2.2.2.1, this.2.2.2.2.2.2.2.2.2⟩

/-- **the deconvolution is the strided transposed convolution cropped by the padding**: output position
    `(k, o, q)` is the sum of `x[c][i][j] · K_k[c][ki][kj]` over exactly the `(c, i, j, ki, kj)` with
    `i·s₀ + ki − p₀ = o` and `j·s₁ + kj − p₁ = q` -/
theorem deconv_gather (l : Deconv ℝ) (x : V3 ℝ) (ks : List (V3 ℝ)) (kf kc ih iw kh kw oh ow k o q : ℕ) :
    L.get3D 0 (Deconv.scatter x ks kf kc (Deconv.taps l ih iw kh kw oh ow) oh ow) k o q =
      ((deconvUpdates x ks kf kc (Deconv.taps l ih iw kh kw oh ow)).map
        (fun u => if u.c = k ∧ u.i = o ∧ u.j = q then u.v else 0)).sum := by
  rw [scatter_as_updates, Scatter.scatter_get, Scatter.get3D_replicate, zero_add]
  intro u hu
  obtain ⟨h1, h2, h3⟩ := deconvUpdates_bounds l x ks kf kc ih iw kh kw oh ow u hu
  exact Scatter.inB_replicate 0 h1 h2 h3

/-- every element of the window (inside the input) is `≤` the value the scan returns -/
theorem maxpool_window_dominates (l : Maxpool ℝ) (x : V3 ℝ) (c h w ih iw k li : ℕ)
    (hk : k < l.kernel.1) (hli : li < l.kernel.2) (hg : h + k < ih ∧ w + li < iw) :
    L.get3D 0 x c (h + k) (w + li) ≤ (Maxpool.window l x c h w ih iw).1 := by
  rw [MaxpoolForward.window_eq]
  have key := L.foldl_visited
    (fun (t : ℕ × ℕ) (acc : ℝ × ℕ × ℕ) => h + t.1 < ih ∧ w + t.2 < iw → L.get3D 0 x c (h + t.1) (w + t.2) ≤ acc.1)
    (MaxpoolForward.stepIn x c h w ih iw)
    (fun t s t' hs hg => le_trans (hs hg) (MaxpoolForward.stepIn_mono x c h w ih iw t' s).1)
    (fun s t => (MaxpoolForward.stepIn_mono x c h w ih iw t s).2)
  exact key _ _ (k, li) (MaxpoolForward.mem_offsets.mpr ⟨hk, hli⟩) hg

/-- the value is the input at the recorded index, which lies in the window — unless nothing in the
    window exceeds the start value `f32::MIN`, in which case the scan reports that value and `(0,0)` -/
theorem maxpool_window_attained (l : Maxpool ℝ) (x : V3 ℝ) (c h w ih iw : ℕ) :
    Maxpool.window l x c h w ih iw = (Scalar.minVal, (0, 0)) ∨
    ∃ k li, k < l.kernel.1 ∧ li < l.kernel.2 ∧ h + k < ih ∧ w + li < iw ∧
      (Maxpool.window l x c h w ih iw).2 = (h + k, w + li) ∧
      (Maxpool.window l x c h w ih iw).1 = L.get3D 0 x c (h + k) (w + li) := by
  rw [MaxpoolForward.window_eq]
  refine L.foldl_inv (fun acc => acc = (Scalar.minVal, (0, 0)) ∨
    ∃ k li, k < l.kernel.1 ∧ li < l.kernel.2 ∧ h + k < ih ∧ w + li < iw ∧ acc.2 = (h + k, w + li) ∧
      acc.1 = L.get3D 0 x c (h + k) (w + li)) (Or.inl rfl) fun acc ha t ht => ?_
  obtain ⟨hk, hli⟩ := MaxpoolForward.mem_offsets.mp ht
  unfold MaxpoolForward.stepIn
  split
  · rename_i hg
    split
    · exact Or.inr ⟨t.1, t.2, hk, hli, hg.1, hg.2, rfl, rfl⟩
    · exact ha
  · exact ha

/-- **the assembled max-pool output**: with positive strides, and every written index inside the announced
    extent (what `Maxpool::forward` checks before its loops), cell `(c, i, j)` of the result of the window
    loops is the scan of the window that starts at `(i·s₀, j·s₁)` — for every channel and every window that
    fits.  With the two theorems above: every output is the maximum of its window. -/
theorem maxpool_output_is_window_scan (l : Maxpool ℝ) (x : V3 ℝ) (ih iw oc oh ow a b : ℕ)
    (hs0 : 0 < l.stride.1) (hs1 : 0 < l.stride.2)
    (hfh : ∀ h ∈ L.stepBy (a + 1) l.stride.1, h / l.stride.1 < oh)
    (hfw : ∀ w ∈ L.stepBy (b + 1) l.stride.2, w / l.stride.2 < ow)
    (c i j : ℕ) (hc : c < oc) (hi : i * l.stride.1 ≤ a) (hj : j * l.stride.2 ≤ b) :
    L.get3D 0 (Maxpool.pool l x ih iw oc oh ow (L.stepBy (a + 1) l.stride.1) (L.stepBy (b + 1) l.stride.2)).1 c i j =
      (Maxpool.window l x c (i * l.stride.1) (j * l.stride.2) ih iw).1 := by
  rw [MaxpoolForward.pool_eq]
  exact MaxpoolForward.strided_assign_get 0 (fun c h w => (Maxpool.window l x c h w ih iw).1) _ _ oc oh ow a b 0
    hs0 hs1 hfh hfw c i j hc hi hj

/-- non-vacuity: a 4-wide extent with kernel 2 and stride 2 visits offsets 0 and 2, both inside 2 outputs -/
example : ∀ h ∈ L.stepBy (2 + 1) 2, h / 2 < 2 := by decide

/-- a flat vector with the row-major content of a `c × h × w` tensor enters a convolution,
    deconvolution or max-pool (all three start with `entry`) as exactly that tensor, so the layer
    computes the same thing on both -/
theorem entry_flat_eq_spatial {α : Type} [Scalar α] (t : V3 α) (c h w : ℕ) (ht : L.Dims3 t c h w)
    (hc : 0 < c) (hh : 0 < h) (hw : 0 < w) (s1 s2 : Shape) :
    entry (⟨s1, .single (L.flatten3 t)⟩ : Tensor α) (.triple c h w) = entry (⟨s2, .triple t⟩ : Tensor α) (.triple c h w) :=
  Rechunk.entry_flat_eq_spatial t c h w ht hc hh hw s1 s2

/-- without skip and loop connections `predict` is the value threaded through the layer sequence:
    `predict (l₁ ++ l₂) = predict l₂ ∘ predict l₁` by `C17.rangeFinal_append`, the empty network is the
    identity, a single layer is that layer's `forward` output -/
theorem predict_is_composition {α : Type} [Scalar α] (n : Network α) (hc : n.connect = []) (hl : n.loopbacks = [])
    (x : Tensor α) : n.predict x = C17.rangeFinal n.layers x := by
  unfold Network.predict
  rw [Walk.forward_eq_runRange n hc hl x]
  unfold Network.runRange C17.rangeFinal C17.finalOf
  cases hf : n.layers.foldl Network.rangeStep (.ok ([], [], [], x)) with
  | error e => rfl
  | ok st =>
    obtain ⟨p, q, r, y⟩ := st
    simp only []
    by_cases hne : n.layers = []
    · rw [hne] at hf
      simp only [List.foldl_nil, Except.ok.injEq, Prod.mk.injEq] at hf
      obtain ⟨_, hq, _, hy⟩ := hf
      subst hq; subst hy; rfl
    · have := (LoopSpec.rangeFold_spec n.layers _ _ _ _ _ _ _ _ hf).2 hne
      rw [List.getLast?_cons, this]
      rfl

end C02
