import Model.Network
import Mathlib.Analysis.Real.Sqrt
import Proofs.Real
import Proofs.Dims

/-!
# C08 — announced layer shapes equal produced shapes; transitions lose nothing

All of this is `Nat` arithmetic and list lengths, exact:
* the output-size functions are the standard formulas, and fail exactly when the effective kernel
  does not fit (or a size underflows);
* the convolution produces exactly the extent its size formula announces;
* a flat size in front of a spatial layer is accepted iff it is a perfect square `r·r`, and is then
  read as `1 × r × r`;
* the builder sets `flatten` on a spatial layer exactly when a dense layer follows, and gives the
  dense layer `c·h·w` inputs;
* the deconvolution's and the max-pool's output have the announced extents, and every gradient of
  the three spatial layers has the extents of what it is the gradient of.
(Row-major preservation of flatten / reshape themselves is C14.)
-/

namespace C08
open Network Scalar

theorem strides_ne_zero {s : Nat × Nat} (hs : 1 ≤ s.1 ∧ 1 ≤ s.2) : ¬ (s.1 = 0 ∨ s.2 = 0) :=
  not_or.mpr ⟨Nat.ne_of_gt hs.1, Nat.ne_of_gt hs.2⟩

/-- a subtraction that underflows (or gives `0`) leaves nothing to take `1` from -/
theorem sub_lt_one {a b : Nat} (h : a < b + 1) : a - b < 1 := by
  rw [Nat.sub_eq_zero_of_le (Nat.le_of_lt_succ h)]; exact Nat.one_pos

/-- convolution: `(i + 2p − d(k−1) − 1) / s + 1` per dimension, when the effective kernel fits -/
theorem conv_outputSize_ok (ih iw f : Nat) (k s p d : Nat × Nat)
    (hk : 1 ≤ k.1 ∧ 1 ≤ k.2) (hs : 1 ≤ s.1 ∧ 1 ≤ s.2)
    (hfit : d.1 * (k.1 - 1) + 1 ≤ ih + 2 * p.1 ∧ d.2 * (k.2 - 1) + 1 ≤ iw + 2 * p.2) :
    Conv.outputSize ih iw f k s p d =
      .ok (.triple f ((ih + 2 * p.1 - d.1 * (k.1 - 1) - 1) / s.1 + 1) ((iw + 2 * p.2 - d.2 * (k.2 - 1) - 1) / s.2 + 1)) := by
  -- the three stages of checked subtractions succeed: `1 ≤ k`; `d(k−1) ≤ i + 2p`; `1 ≤ i + 2p − d(k−1)`
  simp only [Conv.outputSize, checkedSub_of_le, hk.1, hk.2, Nat.le_of_succ_le hfit.1, Nat.le_of_succ_le hfit.2,
    Nat.le_sub_of_add_le' hfit.1, Nat.le_sub_of_add_le' hfit.2, strides_ne_zero hs, if_false]

/-- … and is rejected (usize underflow) when the effective kernel does not fit the padded input -/
theorem conv_outputSize_rejects (ih iw f : Nat) (k s p d : Nat × Nat) (hk : 1 ≤ k.1 ∧ 1 ≤ k.2)
    (hno : ih + 2 * p.1 < d.1 * (k.1 - 1) + 1 ∨ iw + 2 * p.2 < d.2 * (k.2 - 1) + 1) :
    Conv.outputSize ih iw f k s p d = .error .arith := by
  simp only [Conv.outputSize, checkedSub_of_le hk.1, checkedSub_of_le hk.2]
  -- either a first-stage or a second-stage subtraction underflows; the other one of the pair does not matter
  rcases checkedSub_cases (ih + 2 * p.1) (d.1 * (k.1 - 1)) with e1 | e1 <;>
  rcases checkedSub_cases (iw + 2 * p.2) (d.2 * (k.2 - 1)) with e2 | e2 <;> simp only [e1, e2]
  rcases hno with h | h
  · rw [checkedSub_of_lt (sub_lt_one h)]
  · rw [checkedSub_of_lt (sub_lt_one h)]
    rcases checkedSub_cases (ih + 2 * p.1 - d.1 * (k.1 - 1)) 1 with e | e <;> simp only [e]

/-- transposed convolution: `(i − 1)·s + k − 2p` -/
theorem deconv_outputSize_ok (ih iw f : Nat) (k s p : Nat × Nat) (hi : 1 ≤ ih ∧ 1 ≤ iw)
    (hfit : 2 * p.1 ≤ (ih - 1) * s.1 + k.1 ∧ 2 * p.2 ≤ (iw - 1) * s.2 + k.2) :
    Deconv.outputSize ih iw f k s p =
      .ok (.triple f ((ih - 1) * s.1 + k.1 - 2 * p.1) ((iw - 1) * s.2 + k.2 - 2 * p.2)) := by
  simp only [Deconv.outputSize, checkedSub_of_le hi.1, checkedSub_of_le hi.2, checkedSub_of_le hfit.1, checkedSub_of_le hfit.2]

/-- max-pool: `(i − k) / s + 1` -/
theorem maxpool_outputSize_ok (c ih iw : Nat) (k s : Nat × Nat) (hs : 1 ≤ s.1 ∧ 1 ≤ s.2) (hfit : k.1 ≤ ih ∧ k.2 ≤ iw) :
    Maxpool.outputSize c ih iw k s = .ok (.triple c ((ih - k.1) / s.1 + 1) ((iw - k.2) / s.2 + 1)) := by
  simp only [Maxpool.outputSize, checkedSub_of_le hfit.1, checkedSub_of_le hfit.2, strides_ne_zero hs, if_false]

theorem maxpool_outputSize_rejects (c ih iw : Nat) (k s : Nat × Nat) (hno : ih < k.1 ∨ iw < k.2) :
    Maxpool.outputSize c ih iw k s = .error .arith := by
  simp only [Maxpool.outputSize]
  by_cases h1 : k.1 ≤ ih
  · rw [checkedSub_of_lt (hno.resolve_left (Nat.not_lt.mpr h1))]
    cases checkedSub ih k.1 <;> rfl
  · rw [checkedSub_of_lt (Nat.lt_of_not_le h1)]

theorem squareRoot_real (n : ℕ) : squareRoot ℝ n = if Nat.sqrt n * Nat.sqrt n = n then .ok (Nat.sqrt n) else .error .reject := by
  unfold squareRoot
  have : Scalar.toNat (Scalar.sqrt (Scalar.ofNat' n : ℝ)) = Nat.sqrt n := by
    show ⌊Real.sqrt (n : ℝ)⌋₊ = Nat.sqrt n
    exact Real.nat_floor_real_sqrt_eq_nat_sqrt
  simp only [this]

/-- **accepted ⇔ perfect square** -/
theorem flat_to_spatial_iff_square (n : ℕ) :
    (∃ r, squareRoot ℝ n = .ok r) ↔ ∃ r, r * r = n := by
  rw [squareRoot_real]
  constructor
  · rintro ⟨r, h⟩
    by_cases hs : Nat.sqrt n * Nat.sqrt n = n
    · exact ⟨Nat.sqrt n, hs⟩
    · simp [hs] at h
  · rintro ⟨r, h⟩
    have : Nat.sqrt n = r := by rw [← h]; exact Nat.sqrt_eq r
    refine ⟨r, ?_⟩
    simp [this, h]

/-- and the accepted size is recorded as `1 × r × r` with `r·r` elements: no element is dropped -/
theorem spatialInputs_flat (n r : ℕ) (h : r * r = n) :
    spatialInputs (α := ℝ) (.single n) = .ok (.triple 1 r r, 1) := by
  have hs : Nat.sqrt n = r := by rw [← h]; exact Nat.sqrt_eq r
  simp only [spatialInputs, squareRoot_real, hs, h, if_true]

theorem spatialInputs_rejects (n : ℕ) (h : ¬ ∃ r, r * r = n) : spatialInputs (α := ℝ) (.single n) = .error .reject := by
  have : ¬ (Nat.sqrt n * Nat.sqrt n = n) := fun e => h ⟨_, e⟩
  simp only [spatialInputs, squareRoot_real, this, if_false]

variable {α : Type} [Scalar α]

theorem padChannel_dims (ch : V2 α) (ih iw dh dw : Nat) : L.Dims2 (Tensor.padChannel ch ih iw dh dw) ih iw := by
  refine ⟨by simp [Tensor.padChannel], ?_⟩
  intro r hr
  simp only [Tensor.padChannel, List.mem_map, List.mem_range] at hr
  obtain ⟨i, _, rfl⟩ := hr
  split
  · cases L.get? (List.take ih ch) (i - dh) <;> simp [Tensor.padRow]
  · simp

/-- the last step of `pad3d`, stated apart so that `split` meets this `if` and not the ones computing the offsets -/
theorem pad_result_dims (data : V3 α) (ih iw dh dw : Nat) (y : V3 α)
    (hy : (if Tensor.padOutOfRange data ih iw dh dw then Except.error Err.index
           else Except.ok (data.map (fun ch => Tensor.padChannel ch ih iw dh dw))) = Except.ok y) :
    L.Dims3 y data.length ih iw := by
  split at hy
  · cases hy
  · cases hy
    exact ⟨List.length_map _, List.forall_mem_map.mpr fun ch _ => padChannel_dims ch ih iw _ _⟩

/-- zero-padding produces exactly the requested spatial extent for every channel -/
theorem pad3d_dims (x : V3 α) (ih iw : Nat) (y : V3 α) (hy : Tensor.pad3d x ih iw = .ok y) :
    L.Dims3 y x.length ih iw := by
  unfold Tensor.pad3d at hy
  split at hy
  · exact pad_result_dims _ ih iw _ _ y hy
  · cases hy

omit [Scalar α] in
theorem extent_eq (l : Conv α) {ih iw kh kw oh ow : Nat} (h : Conv.extent l ih iw kh kw = .ok (oh, ow)) :
    oh = (ih - (kh - 1) * l.dilation.1 - 1) / l.stride.1 + 1 ∧
    ow = (iw - (kw - 1) * l.dilation.2 - 1) / l.stride.2 + 1 := by
  unfold Conv.extent at h
  repeat' split at h
  all_goals cases h
  rename_i kh1 kw1 e1 e2 _ _ a b e3 e4 _ _ a' b' e5 e6 _
  obtain ⟨-, rfl⟩ := checkedSub_eq_ok.mp e1
  obtain ⟨-, rfl⟩ := checkedSub_eq_ok.mp e2
  obtain ⟨-, rfl⟩ := checkedSub_eq_ok.mp e3
  obtain ⟨-, rfl⟩ := checkedSub_eq_ok.mp e4
  obtain ⟨-, rfl⟩ := checkedSub_eq_ok.mp e5
  obtain ⟨-, rfl⟩ := checkedSub_eq_ok.mp e6
  exact ⟨rfl, rfl⟩

theorem convolve_dims (l : Conv α) (x : V3 α) (ks : List (V3 α)) (y : V3 α) (hy : Conv.convolve l x ks = .ok y)
    (kf kc kh kw : Nat) (hk : kernelDims ks = .ok (kf, kc, kh, kw)) :
    ∃ r m rest oh ow, x = (r :: m) :: rest ∧
      Conv.extent l (r :: m).length r.length kh kw = .ok (oh, ow) ∧ L.Dims3 y ks.length oh ow := by
  unfold Conv.convolve at hy
  rw [hk] at hy
  split at hy
  · cases hy
  · rename_i r m rest _ _ _ _ hk'
    cases hk'
    simp only [] at hy
    split at hy
    · cases hy
    · rename_i oh ow he
      cases hy
      refine ⟨r, m, rest, oh, ow, rfl, he, ?_⟩
      simp only [L.Dims3, List.length_map, List.length_range, List.forall_mem_map, true_and, implies_true]
  · cases hy

/-- **announced = produced for the convolution**: on an input of `c × ih × iw` the pre-activation has
    exactly the extent `Conv.outputSize` announces for `(kh, kw)` kernels -/
theorem conv_produced_extent (l : Conv α) (x : V3 α) (ih iw : Nat)
    (xp y : V3 α) (ks : List (V3 α))
    (hp : Tensor.pad3d x (ih + 2 * l.padding.1) (iw + 2 * l.padding.2) = .ok xp)
    (hy : Conv.convolve l xp ks = .ok y) (kf kc kh kw : Nat) (hk : kernelDims ks = .ok (kf, kc, kh, kw))
    :
    L.Dims3 y ks.length
      ((ih + 2 * l.padding.1 - l.dilation.1 * (kh - 1) - 1) / l.stride.1 + 1)
      ((iw + 2 * l.padding.2 - l.dilation.2 * (kw - 1) - 1) / l.stride.2 + 1) := by
  obtain ⟨r, m, rest, oh, ow, rfl, he, hdy⟩ := convolve_dims l xp ks y hy kf kc kh kw hk
  -- the padded input's first channel and its first row have the padded extents
  have hm0 := (pad3d_dims x _ _ _ hp).2 (r :: m) (List.mem_cons_self ..)
  rw [hm0.1, hm0.2 r (List.mem_cons_self ..)] at he
  obtain ⟨rfl, rfl⟩ := extent_eq l he
  rw [Nat.mul_comm l.dilation.1, Nat.mul_comm l.dilation.2]
  exact hdy

/-- adding a dense layer after a convolution announcing `c × h × w`: the convolution is told to flatten
    and the dense layer is created with `c·h·w` inputs -/
theorem addDense_after_conv (n : Network α) (front : List (Layer α)) (l : Conv α) (c h w : Nat)
    (hn : n.layers = front ++ [.conv l]) (ho : l.outputs = .triple c h w)
    (outputs : Nat) (act : Act) (bias : Bool) (dropout : Option α) (wt : Tensor α) (bt : Option (Tensor α)) :
    (n.addDense outputs act bias dropout wt bt).map (·.layers) =
      .ok (front ++ [.conv { l with flatten := true },
        .dense { inputs := .single (c * h * w), outputs := .single outputs, loops := 1, scale := fun x => 1 / x,
                 weights := wt, bias := if bias then bt else none, act := act, dropout := dropout, training := false }]) := by
  simp only [addDense, hn, List.getLast?_concat, List.dropLast_concat, ho, Except.map]

/-- after a dense layer nothing is flattened and the new layer takes its `k` outputs -/
theorem addDense_after_dense_no_flatten (n : Network α) (front : List (Layer α)) (l : DenseLayer α) (k : Nat)
    (hn : n.layers = front ++ [.dense l]) (ho : l.outputs = .single k)
    (outputs : Nat) (act : Act) (bias : Bool) (dropout : Option α) (wt : Tensor α) (bt : Option (Tensor α)) :
    (n.addDense outputs act bias dropout wt bt).map (·.layers) =
      .ok (front ++ [.dense l,
        .dense { inputs := .single k, outputs := .single outputs, loops := 1, scale := fun x => 1 / x,
                 weights := wt, bias := if bias then bt else none, act := act, dropout := dropout, training := false }]) := by
  simp only [addDense, hn, List.getLast?_concat, List.dropLast_concat, ho, Except.map]

/-- the same for a max-pool and a deconvolution in front of the dense layer -/
theorem addDense_after_maxpool (n : Network α) (front : List (Layer α)) (l : Maxpool α) (c h w : Nat)
    (hn : n.layers = front ++ [.maxpool l]) (ho : l.outputs = .triple c h w)
    (outputs : Nat) (act : Act) (bias : Bool) (dropout : Option α) (wt : Tensor α) (bt : Option (Tensor α)) :
    (n.addDense outputs act bias dropout wt bt).map (·.layers) =
      .ok (front ++ [.maxpool { l with flatten := true },
        .dense { inputs := .single (c * h * w), outputs := .single outputs, loops := 1, scale := fun x => 1 / x,
                 weights := wt, bias := if bias then bt else none, act := act, dropout := dropout, training := false }]) := by
  simp only [addDense, hn, List.getLast?_concat, List.dropLast_concat, ho, Except.map]

set_option linter.unusedSectionVars false in
/-- a flattened spatial output holds exactly `c·h·w` elements in row-major order (C14's lemma),
    which is the input size the dense layer was announced with -/
theorem flatten_count (c h w : Nat) (d : V3 α) (hd : L.Dims3 d c h w) : (L.flatten3 d).length = c * h * w :=
  L.length_flatten3 hd

/-! non-vacuity: 5×6 input, kernel 2×3, stride (2,1), padding (1,0), dilation (1,2) -/
example : Conv.outputSize 5 6 4 (2, 3) (2, 1) (1, 0) (1, 2) = .ok (.triple 4 3 2) := by decide
example : Conv.outputSize 2 2 1 (3, 3) (1, 1) (0, 0) (1, 1) = .error .arith := by decide
example : Deconv.outputSize 2 2 1 (3, 3) (1, 1) (1, 1) = .ok (.triple 1 2 2) := by decide

/-- the deconvolution's forward scatter produces exactly `filters × oh × ow` -/
theorem deconv_produced_extent (x : V3 α) (ks : List (V3 α)) (kf kc : Nat) (tp : List (Nat × Nat × Nat × Nat × Nat × Nat)) (oh ow : Nat) :
    L.Dims3 (Deconv.scatter x ks kf kc tp oh ow) kf oh ow := by
  unfold Deconv.scatter
  refine L.foldl_inv (L.Dims3 · kf oh ow) (Dims.dims3_replicate3 kf oh ow 0) fun y hy k _ => ?_
  refine L.foldl_inv (L.Dims3 · kf oh ow) hy fun y hy c _ => ?_
  refine L.foldl_inv (L.Dims3 · kf oh ow) hy fun y hy t _ => ?_
  exact Dims.dims3_mod3 hy

/-- **gradient shapes equal the shapes of what they are gradients of**, for every configuration:
    the convolution's input gradient has the input's extents (the padded scatter, then the crop) … -/
theorem conv_input_gradient_shape (l : Conv α) (ks : List (V3 α)) (delta : V3 α) (kf kc kh kw oh ow ih iw : Nat) :
    L.Dims3 (Conv.crop l (Conv.paddedInputGrad l ks delta kf kc kh kw oh ow (ih + 2 * l.padding.1) (iw + 2 * l.padding.2)) ih iw) kc ih iw :=
  Dims.conv_crop_dims l (Dims.conv_paddedInputGrad_dims l ks delta kf kc kh kw oh ow _ _)

/-- … its kernel gradient the kernels' extents `filters × channels × kh × kw` … -/
theorem conv_kernel_gradient_shape (l : Conv α) (xp delta : V3 α) (kf kc kh kw oh ow ph pw : Nat) :
    L.Dims4 (Conv.kernelGrad l xp delta kf kc kh kw oh ow ph pw) kf kc kh kw := by
  -- nested `map`s over `range`s: every level has its range's length
  simp only [Conv.kernelGrad, L.Dims4, L.Dims3, List.length_map, List.length_range, List.forall_mem_map,
    List.mem_range, true_and, implies_true]

/-- … and the deconvolution's gradients the input's and the kernels' extents -/
theorem deconv_gradient_shapes (x : V3 α) (ks : List (V3 α)) (delta : V3 α) (kf kc kh kw ih iw : Nat)
    (tp : List (Nat × Nat × Nat × Nat × Nat × Nat)) :
    L.Dims3 (Deconv.gradPass x ks delta kf kc kh kw ih iw tp).1 kc ih iw ∧
    L.Dims4 (Deconv.gradPass x ks delta kf kc kh kw ih iw tp).2 kf kc kh kw := by
  unfold Deconv.gradPass
  refine L.foldl_inv (fun acc : V3 α × V4 α => L.Dims3 acc.1 kc ih iw ∧ L.Dims4 acc.2 kf kc kh kw)
    ⟨Dims.dims3_replicate3 kc ih iw 0, Dims.dims4_replicate4 kf kc kh kw 0⟩ fun acc h f _ => ?_
  refine L.foldl_inv (fun acc : V3 α × V4 α => L.Dims3 acc.1 kc ih iw ∧ L.Dims4 acc.2 kf kc kh kw) h fun acc h c _ => ?_
  refine L.foldl_inv (fun acc : V3 α × V4 α => L.Dims3 acc.1 kc ih iw ∧ L.Dims4 acc.2 kf kc kh kw) h fun acc h t _ => ?_
  exact ⟨Dims.dims3_mod3 h.1, Dims.dims4_mod4 h.2⟩

/-- **a max-pool that returns at all returns exactly the announced output shape** (the window maxima are
    written into `channels × oh × ow` zeros by index updates) … -/
theorem maxpool_forward_shape (l : Maxpool α) (x pre post : Tensor α) (mx : MaxIdx)
    (h : l.forward x = .ok (pre, post, mx)) : pre.shape = l.outputs := by
  unfold Maxpool.forward at h
  split at h
  · cases h
  · rename_i x' ih iw oc oh ow he ho
    split at h
    · rename_i a b ha hb
      by_cases h1 : l.stride.1 = 0 ∨ l.stride.2 = 0
      · rw [if_pos h1] at h; cases h
      · rw [if_neg h1] at h
        simp only [] at h
        split at h
        · cases h
        · cases hp : Tensor.triple (Maxpool.pool l x' ih iw oc oh ow (L.stepBy (a + 1) l.stride.1) (L.stepBy (b + 1) l.stride.2)).1 with
          | error e => rw [hp] at h; cases h
          | ok pre' =>
            rw [hp] at h
            have hs := Dims.triple_shape (Dims.maxpool_pool_dims l x' ih iw oc oh ow _ _).1 hp
            simp only [] at h
            split at h
            · cases h
            · cases h
              rw [ho]; exact hs
    · cases h
  · cases h

/-- … and its input gradient has exactly the announced input shape -/
theorem maxpool_gradient_shape (l : Maxpool α) (g t : Tensor α) (mx : MaxIdx)
    (h : l.backward g mx = .ok t) : t.shape = l.inputs := by
  unfold Maxpool.backward at h
  split at h
  · cases h
  · rename_i ic ih iw og hi hg
    split at h
    · simp only [] at h
      split at h
      · cases h
      · rw [hi]
        exact Dims.triple_shape (Dims.maxpool_route_dims l mx _ _ ic ih iw) h
    · cases h
  · cases h

end C08
