import Model.Tensor
import Proofs.Zip
import Proofs.TensorWf
import Proofs.MeanG
import Proofs.Dims

/-!
# C15 — element-wise tensor arithmetic is exact, rank-generic and shape-checked

For every scalar type `α` (so in particular for IEEE single precision: the statements say *which*
scalar operation is applied to *which* pair of elements; that the operation itself is the IEEE one
is the bit-exact correspondence at `Float32`), every rank 1-D…4-D and every shape.
`Tensor.flat` is the row-major element sequence, `Tensor.Wf` says the recorded shape describes the data.
-/

namespace C15
variable {α : Type} [Scalar α]
open Tensor Scalar

omit [Scalar α] in
/-- **rank-generic element-wise law**: `add/sub/mul/hadamard` on two well-formed tensors of the same
    shape (any rank) succeed, leave the shape unchanged, and combine the elements pairwise -/
theorem zipOp_spec (f : α → α → α) (a b : Tensor α) (ha : a.Wf) (hb : b.Wf) (hs : a.shape = b.shape) :
    ∃ r, zipOp f a b = .ok r ∧ r.shape = a.shape ∧ r.Wf ∧ r.flat = List.zipWith f a.flat b.flat := by
  obtain ⟨s, da⟩ := a
  obtain ⟨_, db⟩ := b
  cases hs
  -- `Wf` reduces to `False` unless shape and data have the same rank, and to the `Dims` predicate of that rank if they have
  cases s <;> cases da <;> (try exact ha.elim) <;> cases db <;> try exact hb.elim
  · rename_i n x y
    have hz := L.zip1_spec f x y (ha.trans hb.symm)
    exact ⟨⟨.single n, .single (L.zip1 f x y)⟩, by simp [zipOp], rfl, hz.2.trans ha, hz.1⟩
  · rename_i r c x y
    exact ⟨⟨.double r c, .double (L.zip2 f x y)⟩, by simp [zipOp], rfl, L.zip2_dims f ha hb,
      L.zip2_flat f ha hb⟩
  · rename_i c h w x y
    exact ⟨⟨.triple c h w, .triple (L.zip3 f x y)⟩, by simp [zipOp], rfl, L.zip3_dims f ha hb,
      L.zip3_flat f ha hb⟩
  · rename_i k c h w x y
    exact ⟨⟨.quadruple k c h w, .quadruple (L.zip4 f x y)⟩, by simp [zipOp], rfl, L.zip4_dims f ha hb,
      L.zip4_flat f ha hb⟩

omit [Scalar α] in
theorem zipOp_rejects (f : α → α → α) (a b : Tensor α) (hs : a.shape ≠ b.shape) :
    zipOp f a b = .error .shape := by
  simp [zipOp, hs]

theorem add_spec (a b : Tensor α) (ha : a.Wf) (hb : b.Wf) (hs : a.shape = b.shape) :
    ∃ r, a.add b = .ok r ∧ r.shape = a.shape ∧ r.Wf ∧ r.flat = List.zipWith (· + ·) a.flat b.flat :=
  zipOp_spec _ a b ha hb hs

theorem sub_spec (a b : Tensor α) (ha : a.Wf) (hb : b.Wf) (hs : a.shape = b.shape) :
    ∃ r, a.sub b = .ok r ∧ r.shape = a.shape ∧ r.Wf ∧ r.flat = List.zipWith (· - ·) a.flat b.flat :=
  zipOp_spec _ a b ha hb hs

theorem mul_spec (a b : Tensor α) (ha : a.Wf) (hb : b.Wf) (hs : a.shape = b.shape) :
    ∃ r, a.mul b = .ok r ∧ r.shape = a.shape ∧ r.Wf ∧ r.flat = List.zipWith (· * ·) a.flat b.flat :=
  zipOp_spec _ a b ha hb hs

/-- scaled Hadamard product: `(a·b)·s`, in that order -/
theorem hadamard_spec (a b : Tensor α) (s : α) (ha : a.Wf) (hb : b.Wf) (hs : a.shape = b.shape) :
    ∃ r, a.hadamard b s = .ok r ∧ r.shape = a.shape ∧ r.Wf ∧
      r.flat = List.zipWith (fun x y => x * y * s) a.flat b.flat :=
  zipOp_spec _ a b ha hb hs

theorem add_rejects (a b : Tensor α) (hs : a.shape ≠ b.shape) : a.add b = .error .shape := zipOp_rejects _ a b hs
theorem sub_rejects (a b : Tensor α) (hs : a.shape ≠ b.shape) : a.sub b = .error .shape := zipOp_rejects _ a b hs
theorem mul_rejects (a b : Tensor α) (hs : a.shape ≠ b.shape) : a.mul b = .error .shape := zipOp_rejects _ a b hs
theorem hadamard_rejects (a b : Tensor α) (s : α) (hs : a.shape ≠ b.shape) : a.hadamard b s = .error .shape :=
  zipOp_rejects _ a b hs

omit [Scalar α] in
/-- any element-wise map (division by a scalar, clamp) acts on every element, at every rank, and keeps
    shape and well-formedness -/
theorem mapData_spec (f : α → α) (t : Tensor α) (ht : t.Wf) :
    (mapData f t).shape = t.shape ∧ (mapData f t).Wf ∧ (mapData f t).flat = t.flat.map f := by
  obtain ⟨s, d⟩ := t
  cases s <;> cases d <;> try exact ht.elim
  · exact ⟨rfl, (List.length_map f).trans ht, rfl⟩
  · exact ⟨rfl, L.map2_dims f ht, L.map2_flat f _⟩
  · exact ⟨rfl, L.map3_dims f ht, L.map3_flat f _⟩
  · exact ⟨rfl, L.map4_dims f ht, L.map4_flat f _⟩

theorem divScalar_spec (t : Tensor α) (s : α) (ht : t.Wf) :
    (t.divScalar s).shape = t.shape ∧ (t.divScalar s).Wf ∧ (t.divScalar s).flat = t.flat.map (· / s) :=
  mapData_spec _ t ht

/-- clamp: accepted when `lo ≤ hi`, every element is replaced by its clamped value -/
theorem clamp_spec (t : Tensor α) (lo hi : α) (ht : t.Wf) (h : le lo hi = true) :
    ∃ r, t.clamp lo hi = .ok r ∧ r.shape = t.shape ∧ r.Wf ∧ r.flat = t.flat.map (fun x => clampRaw x lo hi) := by
  obtain ⟨a, b, c⟩ := mapData_spec (fun x => clampRaw x lo hi) t ht
  exact ⟨_, by simp [clamp, h], a, b, c⟩

/-- clamped values lie in the interval, for any scalar order whose `lt` is irreflexive
    (true of IEEE `<` and of `ℝ`): `¬ r < lo` and `¬ hi < r` -/
theorem clampRaw_in_interval (x lo hi : α) (irr : ∀ a : α, lt a a = false) (h : lt hi lo = false) :
    lt (clampRaw x lo hi) lo = false ∧ lt hi (clampRaw x lo hi) = false := by
  unfold clampRaw
  by_cases h1 : lt x lo = true
  · simp [h1, h, irr]
  · simp only [h1]
    by_cases h2 : lt hi x = true
    · simp [h2, h, irr]
    · simp at h1 h2; simp [h1, h2]

/-- and a value already inside the interval is left alone -/
theorem clampRaw_id (x lo hi : α) (h1 : lt x lo = false) (h2 : lt hi x = false) : clampRaw x lo hi = x := by
  simp [clampRaw, h1, h2]

/-- the documented element-wise mean: position `i` becomes `(self[i] + Σ_j others[j][i]) / n`.  This is
    `MeanG.spec1 (meanElem · · n)` by `rfl`; ranks 2–4 are stated with `MeanG.spec2` … `spec4` directly. -/
def meanSpec1 (self : V1 α) (others : List (V1 α)) (n : α) : V1 α :=
  (List.range self.length).map (fun i => meanElem (self.getD i 0) (others.map (fun o => o.getD i 0)) n)

theorem mean1_spec (n : α) (self : V1 α) (others : List (V1 α)) (h : ∀ o ∈ others, o.length = self.length) :
    mean1 self others n = .ok (meanSpec1 self others n) :=
  MeanG.nzip1_spec _ self others h

theorem mean_map_eq_meanCore {β : Type} {self : Tensor α} {g : β → Tensor α} {others : List β} (hk : others ≠ [])
    (hs : ∀ o ∈ others, (g o).shape = self.shape) : self.mean (others.map g) = meanCore self (others.map g) := by
  obtain ⟨o, os, rfl⟩ := List.exists_cons_of_ne_nil hk
  have : ((o :: os).map g).all (fun t => t.shape == self.shape) = true := by
    rw [List.all_map, List.all_eq_true]
    exact fun x hx => beq_iff_eq.mpr (hs x hx)
  rw [List.map_cons] at this ⊢
  simp only [mean, this, if_true]

/-- `mean_inplace` at rank 1: accepted for `k ≥ 1` equal-shaped operands, shape unchanged, and every
    element is `(self + Σ others)/(k+1)` -/
theorem mean_spec_rank1 (d : V1 α) (others : List (V1 α)) (hk : others ≠ [])
    (h : ∀ o ∈ others, o.length = d.length) :
    (⟨.single d.length, .single d⟩ : Tensor α).mean (others.map (fun o => ⟨.single o.length, .single o⟩)) =
      .ok ⟨.single d.length, .single (meanSpec1 d others (ofNat' (others.length + 1)))⟩ := by
  rw [mean_map_eq_meanCore hk (fun o ho => congrArg Shape.single (h o ho))]
  have e := L.mapM'_map_ok asSingle (fun o => (⟨.single o.length, .single o⟩ : Tensor α)) (fun _ => rfl) others
  simp only [meanCore, e, List.length_map, mean1_spec _ d others h]

/-! ### ranks 2, 3 and 4: the same element formula (`Proofs/MeanG.lean`: the n-ary zip, level by level) -/

/-- `mean_inplace` at rank 2: result `[i][j] = (self[i][j] + Σ_o o[i][j]) / (k+1)`, shape unchanged -/
theorem mean_spec_rank2 (d : V2 α) (others : List (V2 α)) (hh ww : Nat) (hk : others ≠ [])
    (hd : L.Dims2 d hh ww) (ho : ∀ o ∈ others, L.Dims2 o hh ww) :
    (⟨.double hh ww, .double d⟩ : Tensor α).mean (others.map (fun o => ⟨.double hh ww, .double o⟩)) =
      .ok ⟨.double hh ww, .double (MeanG.spec2 (fun v hs => meanElem v hs (ofNat' (others.length + 1))) d others)⟩ := by
  rw [mean_map_eq_meanCore hk]
  · have e := L.mapM'_map_ok asDouble (fun o => (⟨.double hh ww, .double o⟩ : Tensor α)) (fun _ => rfl) others
    simp only [meanCore, e, List.length_map, mean2, MeanG.nzip2_spec _ hd ho]
  · exact fun _ _ => rfl

theorem mean_spec_rank3 (d : V3 α) (others : List (V3 α)) (c hh ww : Nat) (hk : others ≠ [])
    (hd : L.Dims3 d c hh ww) (ho : ∀ o ∈ others, L.Dims3 o c hh ww) :
    (⟨.triple c hh ww, .triple d⟩ : Tensor α).mean (others.map (fun o => ⟨.triple c hh ww, .triple o⟩)) =
      .ok ⟨.triple c hh ww, .triple (MeanG.spec3 (fun v hs => meanElem v hs (ofNat' (others.length + 1))) d others)⟩ := by
  rw [mean_map_eq_meanCore hk]
  · have e := L.mapM'_map_ok asTriple (fun o => (⟨.triple c hh ww, .triple o⟩ : Tensor α)) (fun _ => rfl) others
    simp only [meanCore, e, List.length_map, mean3, MeanG.nzip3_spec _ hd ho]
  · exact fun _ _ => rfl

theorem mean_spec_rank4 (d : V4 α) (others : List (V4 α)) (k c hh ww : Nat) (hk : others ≠ [])
    (hd : L.Dims4 d k c hh ww) (ho : ∀ o ∈ others, L.Dims4 o k c hh ww) :
    (⟨.quadruple k c hh ww, .quadruple d⟩ : Tensor α).mean (others.map (fun o => ⟨.quadruple k c hh ww, .quadruple o⟩)) =
      .ok ⟨.quadruple k c hh ww, .quadruple (MeanG.spec4 (fun v hs => meanElem v hs (ofNat' (others.length + 1))) d others)⟩ := by
  rw [mean_map_eq_meanCore hk]
  · have e := L.mapM'_map_ok asQuadruple (fun o => (⟨.quadruple k c hh ww, .quadruple o⟩ : Tensor α)) (fun _ => rfl) others
    simp only [meanCore, e, List.length_map, mean4, MeanG.nzip4_spec _ hd ho]
  · exact fun _ _ => rfl

/-- … where position `(b, a, i, j)` of `spec4` (and likewise `spec2`, `spec3`) is the mean of the
    operands' entries at that position -/
theorem mean_element_rank4 (n : α) (self : V4 α) (others : List (V4 α)) (k c hh ww b a i j : Nat)
    (hs : L.Dims4 self k c hh ww) (hb : b < k) (ha : a < c) (hi : i < hh) (hj : j < ww) :
    ((((MeanG.spec4 (fun v hs => meanElem v hs n) self others).getD b []).getD a []).getD i []).getD j 0 =
      meanElem ((((self.getD b []).getD a []).getD i []).getD j 0)
        (others.map (fun o => (((o.getD b []).getD a []).getD i []).getD j 0)) n :=
  MeanG.spec4_get _ others hs hb ha hi hj

theorem mean_element_rank3 (n : α) (self : V3 α) (others : List (V3 α)) (c hh ww a i j : Nat)
    (hs : L.Dims3 self c hh ww) (ha : a < c) (hi : i < hh) (hj : j < ww) :
    (((MeanG.spec3 (fun v hs => meanElem v hs n) self others).getD a []).getD i []).getD j 0 =
      meanElem (((self.getD a []).getD i []).getD j 0) (others.map (fun o => ((o.getD a []).getD i []).getD j 0)) n :=
  MeanG.spec3_get _ others hs ha hi hj

theorem mean_element_rank2 (n : α) (self : V2 α) (others : List (V2 α)) (hh ww i j : Nat)
    (hs : L.Dims2 self hh ww) (hi : i < hh) (hj : j < ww) :
    ((MeanG.spec2 (fun v hs => meanElem v hs n) self others).getD i []).getD j 0 =
      meanElem ((self.getD i []).getD j 0) (others.map (fun o => (o.getD i []).getD j 0)) n :=
  MeanG.spec2_get _ others hs hi hj

/-- shape-mismatched operands are refused; so is an empty operand list -/
theorem mean_rejects_mismatch (a : Tensor α) (others : List (Tensor α))
    (h : ∃ o ∈ others, o.shape ≠ a.shape) : a.mean others = .error .shape := by
  cases others with
  | nil => obtain ⟨o, ho, _⟩ := h; simp at ho
  | cons o os =>
    have : (o :: os).all (fun t => t.shape == a.shape) = false := by
      obtain ⟨x, hx, hne⟩ := h
      apply Bool.eq_false_iff.mpr
      intro hall
      rw [List.all_eq_true] at hall
      exact hne (by simpa using hall x hx)
    simp only [mean, this]
    simp

theorem mean_rejects_empty (a : Tensor α) : a.mean [] = .error .reject := rfl

/-- outer product: `result[i][j] = a[i] * b[j]`, recorded shape `len a × len b` -/
theorem product_spec (x y : V1 α) (hx : x ≠ []) :
    (Tensor.single x).product (Tensor.single y) =
      .ok ⟨.double x.length y.length, .double (x.map (fun p => y.map (fun q => p * q)))⟩ := by
  cases x with
  | nil => exact absurd rfl hx
  | cons a as => simp [product, Tensor.single]

/-- matrix-vector product: entry `i` is `Σ_j A[i][j] * x[j]` summed left to right -/
theorem dot_spec (m : V2 α) (x : V1 α) (r c : Nat) :
    (⟨.double r c, .double m⟩ : Tensor α).dot (Tensor.single x) =
      .ok ⟨.single m.length, .single (m.map (fun row => sumL (List.zipWith (· * ·) row x)))⟩ := by
  simp [dot, Tensor.single, dotRow]

/-- transpose: `T[j][i] = A[i][j]`, recorded shape swapped -/
theorem transpose_spec (m : V2 α) (r c : Nat) (hm : L.Dims2 m r c) (hr : 0 < r) (hc : 0 < c) :
    ∃ t, (⟨.double r c, .double m⟩ : Tensor α).transpose = .ok ⟨.double c r, .double t⟩ ∧
      L.Dims2 t c r ∧ ∀ i j, i < r → j < c → (t.getD j []).getD i 0 = (m.getD i []).getD j 0 := by
  refine ⟨_, Tensor.transpose_of_dims hm hr hc, ⟨by rw [List.length_map, List.length_range], fun row hrow => ?_⟩,
    fun i j hi hj => ?_⟩
  · obtain ⟨j, _, rfl⟩ := List.mem_map.mp hrow
    rw [List.length_map, hm.1]
  · have hi' : i < m.length := hm.1 ▸ hi
    simp only [List.getD_eq_getElem?_getD, List.getElem?_map, List.getElem?_range hj, Option.map_some,
      Option.getD_some, List.getElem?_eq_getElem hi', L.get?_eq]

/-- **the scaled Hadamard product of two `c × h × w` nests** (`tensor::hadamard3d`, the delta of the spatial layers'
    backward passes) keeps the extents — whatever `c`, `h`, `w`, equal or not — and is the element-wise `a·b·s` -/
theorem hadamard3d_spec (a b : V3 α) (s : α) (c h w : Nat) (ha : L.Dims3 a c h w) (hb : L.Dims3 b c h w) :
    L.Dims3 (Tensor.hadamard3d a b s) c h w ∧
    ∀ i j k, i < c → j < h → k < w →
      (((Tensor.hadamard3d a b s).getD i []).getD j []).getD k 0 =
        (((a.getD i []).getD j []).getD k 0) * (((b.getD i []).getD j []).getD k 0) * s := by
  constructor
  · rw [Tensor.hadamard3d, L.zipWith3_eq_zip3 _ ha hb]
    exact L.zip3_dims _ ha hb
  · intro i j k hi hj hk
    have ai : L.Dims2 (a.getD i []) h w := L.dims_getD [] ha hi
    have bi : L.Dims2 (b.getD i []) h w := L.dims_getD [] hb hi
    rw [Tensor.hadamard3d, L.getD_zipWith _ a b i [] [] [] (by rw [ha.1]; exact hi) (by rw [hb.1]; exact hi),
      L.getD_zipWith _ _ _ j [] [] [] (by rw [ai.1]; exact hj) (by rw [bi.1]; exact hj),
      L.getD_zipWith _ _ _ k 0 0 0 (by rw [L.dims_getD [] ai hj]; exact hk)
        (by rw [L.dims_getD [] bi hj]; exact hk)]

/-! non-vacuity -/
example (x : α) : L.Dims3 (L.replicate3 2 3 5 x) 2 3 5 := Dims.dims3_replicate3 2 3 5 x

example : (⟨.double 2 2, .double [[(1:Nat), 2], [3, 4]]⟩ : Tensor Nat).Wf := by
  simp [Wf]

end C15
