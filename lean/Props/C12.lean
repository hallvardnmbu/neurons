import Model.Train
import Proofs.Chunks
import Proofs.Real
import Proofs.Folds

/-!
# C12 — `validate` and `predict_batch` are faithful aggregations of `predict`

About `Network.predictBatch`, `Network.predict`, `Network.validate`, `Network.score`, `Tensor.argmax`
(`Model/Train.lean`, `Model/Network.lean`, `Model/Tensor.lean`).
-/

namespace C12
open Network Scalar

variable {α : Type} [Scalar α]

/-- **`predict_batch` = `predict` of each input, in input order, for any number of inputs** — the
    internal chunk size (64) plays no role: below, at, above it, multiples or not -/
theorem predictBatch_eq_map (n : Network α) (xs : List (Tensor α)) :
    n.predictBatch xs = L.mapM' n.predict xs := by
  unfold predictBatch
  have h := L.mapM'_groups n.predict (L.chunks 64 xs)
  rw [L.chunks_flatten 64 (by decide) xs] at h
  rw [← h]
  cases L.mapM' (fun g => L.mapM' n.predict g) (L.chunks 64 xs) <;> rfl

/-- in particular the result has one prediction per input -/
theorem predictBatch_length (n : Network α) (xs ys : List (Tensor α)) (h : n.predictBatch xs = .ok ys) :
    ys.length = xs.length := by
  rw [predictBatch_eq_map] at h
  exact L.mapM'_length _ _ _ h

/-- `predict` is the final activation of `forward` -/
theorem predict_eq_last_activation (n : Network α) (x : Tensor α) (t : Trace α) (y : Tensor α)
    (h : n.forward x = .ok t) (hy : t.act.getLast? = some y) : n.predict x = .ok y := by
  simp [predict, h, hy]

/-- **`validate` returns the arithmetic means** of the per-sample objective losses of the (dropout-free)
    network's predictions and of the per-sample scores, summed in input order -/
theorem validate_eq_means (n : Network α) (xs ts : List (Tensor α)) (tol : α) (n' : Network α) (l a : α)
    (h : n.validate xs ts tol = .ok (n', l, a)) :
    ∃ results : List (α × α),
      L.mapM' (fun it : Tensor α × Tensor α =>
        match (n.setAllTraining false).predict it.1 with
        | .error e => .error e
        | .ok p =>
          match (n.setAllTraining false).objective.loss (n.setAllTraining false).clamp p it.2,
                (n.setAllTraining false).score p it.2 tol with
          | .ok (l, _), .ok a => .ok (l, a)
          | .error e, _ => .error e
          | _, .error e => .error e) (xs.zip ts) = .ok results ∧
      results.length = (xs.zip ts).length ∧
      l = Tensor.sumL (results.map (·.1)) / ofNat' results.length ∧
      a = Tensor.sumL (results.map (·.2)) / ofNat' results.length := by
  unfold validate at h
  simp only [] at h
  split at h
  · cases h
  · rename_i results hr
    cases h
    exact ⟨results, hr, L.mapM'_length _ _ _ hr, rfl, rfl⟩

/-- over the reals the two sums are `List.sum`, so the results are the usual means -/
theorem mean_real (l : List ℝ) : Tensor.sumL l / (Scalar.ofNat' l.length : ℝ) = l.sum / l.length := by
  rw [Folds.sumL_eq]; rfl

/-- a soft-max output layer scores arg-max agreement -/
theorem score_softmax (n : Network α) (d : DenseLayer α) (hd : n.layers.getLast? = some (.dense d)) (hs : d.act = .softmax)
    (p t : Tensor α) (tol : α) (i j : Nat) (ht : t.argmax = .ok i) (hp : p.argmax = .ok j) :
    n.score p t tol = .ok (if i = j then 1 else 0) := by
  simp [score, hd, hs, ht, hp]

/-- a single output scores `|p − t| < tol` -/
theorem score_single (n : Network α) (d : DenseLayer α) (hd : n.layers.getLast? = some (.dense d)) (hs : d.act ≠ .softmax)
    (p0 t0 tol : α) :
    n.score (Tensor.single [p0]) (Tensor.single [t0]) tol = .ok (if lt (Scalar.abs (p0 - t0)) tol then 1 else 0) := by
  -- `hs` discharges the side condition of the default arm of the match on `d.act`
  simp only [score, hd]
  rfl

/-- otherwise: the fraction of output components within `tol` of the target -/
theorem score_fraction (n : Network α) (d : DenseLayer α) (hd : n.layers.getLast? = some (.dense d)) (hs : d.act ≠ .softmax)
    (p t : List α) (tol : α) (hl : t.length ≠ 1) :
    n.score (Tensor.single p) (Tensor.single t) tol =
      .ok (Tensor.sumL (List.zipWith (fun t p => if lt (Scalar.abs (t - p)) tol then (1 : α) else 0) t p) / ofNat' t.length) := by
  simp only [score, hd]
  exact if_neg hl

/-- the fold of `Tensor.argmax` (state: best index, current index, best value) -/
noncomputable def argStep (acc : Nat × Nat × ℝ) (v : ℝ) : Nat × Nat × ℝ :=
  if Scalar.lt v acc.2.2 then (acc.1, acc.2.1 + 1, acc.2.2) else (acc.2.1 + 1, acc.2.1 + 1, v)

def LastMax (l : List ℝ) (b : Nat) : Prop :=
  b < l.length ∧ (∀ j, j < l.length → l.getD j 0 ≤ l.getD b 0) ∧
    ∀ j, b < j → j < l.length → l.getD j 0 < l.getD b 0

/-- the new element becomes the best unless it is strictly smaller: hence the *last* maximum -/
theorem argStep_snoc {pre : List ℝ} {b : Nat} (h : LastMax pre b) (x : ℝ) :
    ∃ b', argStep (b, pre.length - 1, pre.getD b 0) x = (b', (pre ++ [x]).length - 1, (pre ++ [x]).getD b' 0) ∧
      LastMax (pre ++ [x]) b' := by
  obtain ⟨hb, hmax, hlast⟩ := h
  have old : ∀ j, j < pre.length → (pre ++ [x]).getD j 0 = pre.getD j 0 := fun j hj => by
    rw [List.getD_eq_getElem?_getD, List.getD_eq_getElem?_getD, List.getElem?_append_left hj]
  have new : (pre ++ [x]).getD pre.length 0 = x := by
    rw [List.getD_eq_getElem?_getD, List.getElem?_concat_length, Option.getD_some]
  have hlen : (pre ++ [x]).length = pre.length + 1 := List.length_append
  have hi : pre.length - 1 + 1 = pre.length := Nat.sub_add_cancel (Nat.lt_of_le_of_lt (Nat.zero_le b) hb)
  have pos : ∀ j, j < (pre ++ [x]).length → j < pre.length ∨ j = pre.length := fun j hj =>
    Nat.lt_or_eq_of_le (Nat.le_of_lt_add_one (hlen ▸ hj))
  by_cases hlt : x < pre.getD b 0
  · refine ⟨b, by simp only [argStep, RealScalar.lt_iff, if_pos hlt, hi, hlen, old b hb, Nat.add_sub_cancel],
      hlen ▸ Nat.lt_succ_of_lt hb, fun j hj => ?_, fun j h1 hj => ?_⟩
    all_goals rw [old b hb]; rcases pos j hj with hj' | rfl
    · rw [old j hj']; exact hmax j hj'
    · rw [new]; exact hlt.le
    · rw [old j hj']; exact hlast j h1 hj'
    · rw [new]; exact hlt
  · refine ⟨pre.length, by simp only [argStep, RealScalar.lt_iff, if_neg hlt, hi, hlen, new, Nat.add_sub_cancel],
      hlen ▸ Nat.lt_succ_self _, fun j hj => ?_,
      fun j h1 hj => absurd (Nat.le_of_lt_add_one (hlen ▸ hj)) (Nat.not_le.mpr h1)⟩
    rw [new]
    rcases pos j hj with hj' | rfl
    · rw [old j hj']; exact (hmax j hj').trans (not_lt.mp hlt)
    · rw [new]

theorem argmax_fold_spec (xs : List ℝ) : ∀ {pre : List ℝ} {b : Nat}, LastMax pre b →
    LastMax (pre ++ xs) (xs.foldl argStep (b, pre.length - 1, pre.getD b 0)).1 := by
  induction xs with
  | nil => intro pre b h; simpa using h
  | cons x xs ih =>
    intro pre b h
    obtain ⟨b', e, h'⟩ := argStep_snoc h x
    rw [List.foldl_cons, e, List.append_cons]
    exact ih h'

/-- **ties resolve to the last maximal index** (as `Iterator::max_by` does): the returned index is in
    range, its value is ≥ every value and strictly greater than every later value -/
theorem argmax_last_max (x : ℝ) (xs : List ℝ) :
    ∃ i, (Tensor.single (x :: xs)).argmax = .ok i ∧ i < (x :: xs).length ∧
      (∀ j, j < (x :: xs).length → (x :: xs).getD j 0 ≤ (x :: xs).getD i 0) ∧
      (∀ j, i < j → j < (x :: xs).length → (x :: xs).getD j 0 < (x :: xs).getD i 0) := by
  have h0 : LastMax [x] 0 :=
    ⟨Nat.zero_lt_one, fun j hj => by simp at hj; subst hj; rfl, fun j h1 h2 => by simp at h2; omega⟩
  refine ⟨(xs.foldl argStep (0, 0, x)).1, ?_, argmax_fold_spec xs h0⟩
  have hnan : (x :: xs).any (Scalar.isNaN : ℝ → Bool) = false := by simp
  simp only [Tensor.argmax, Tensor.single, hnan]
  rfl

/-! non-vacuity -/
example : ∃ i, (Tensor.single ([1, 3, 3, 2] : List ℝ)).argmax = .ok i := by
  obtain ⟨i, h, _⟩ := argmax_last_max 1 [3, 3, 2]; exact ⟨i, h⟩

end C12
