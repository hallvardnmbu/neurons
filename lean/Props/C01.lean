import Proofs.SoftmaxCE
import Proofs.DenseBlock
import Proofs.ChainLinks

/-!
# C01 — backpropagated gradients are the true derivatives of the objective

Over `ℝ` (rounding aside; the bit-level agreement of model and code is the correspondence check), away from the kinks
of ReLU / leaky ReLU and from ties in a max-pool window.  Three levels of statements:
* calculus: a reverse walk over layers whose backward functions are transposed Jacobians yields the gradient of the
  objective, every coordinate a partial derivative, for any depth and any index types (`reverse_walk_is_gradient`,
  `reverse_walk_partials`, `parameter_gradient`, `heterogeneous_walk_is_gradient`); soft-max under cross-entropy
  (`softmax_ce_gradient`);
* layers: each kind's `forward` on the model's tensors is a vector function, and its `backward` returns that function's
  transposed Jacobians in the input and in the parameters — dense, convolution, deconvolution, max-pool, feedback
  block, for every configuration (`dense_backward_is_derivative`, the `*_is_transpose` and `*_is_transposed_jacobian`
  theorems, `conv_layer_backward_is_derivative`, the `*_is_link` theorems);
* networks: the same on the model's own `Network.forward` / `Network.backward` folds, for any sequence of such layers
  without skip or loop connections (`layer_sequence_network_gradient`; instances `mlp_backward_is_gradient`,
  `conv_then_dense_network_gradients`, `conv_pool_mlp_gradients`, `conv_conv_mlp_gradients`).
-/

open BigOperators

namespace C01
open VJP DenseBridge Scalar RealScalar

/-- any depth: the reverse walk computes the gradient of the objective with respect to the input -/
theorem reverse_walk_is_gradient {n k : ℕ} (net : Net n k) (x : Vec n) (h : net.Ok x) (ℓ : Vec k → ℝ) (g : Vec k)
    (hl : IsGrad ℓ (net.fwd x) g) : IsGrad (ℓ ∘ net.fwd) x (net.bwd x g) := Net.grad net x h ℓ g hl

/-- … whose coordinates are the partial derivatives -/
theorem reverse_walk_partials {n k : ℕ} (net : Net n k) (x : Vec n) (h : net.Ok x) (ℓ : Vec k → ℝ) (g : Vec k)
    (hl : IsGrad ℓ (net.fwd x) g) (j : Fin n) :
    HasDerivAt (fun s => ℓ (net.fwd (Function.update x j s))) (net.bwd x g j) (x j) :=
  (Net.grad net x h ℓ g hl).partial j

/-- the gradient of a layer's parameters `θ`: the layer's parameter-VJP applied to the gradient the
    rest of the network hands back to it -/
theorem parameter_gradient {ι : Type} [Fintype ι] [DecidableEq ι] {m k : ℕ} (layer : V ι → Vec m) (θ : V ι)
    (bθ : Vec m → V ι) (hθ : IsVJP layer θ bθ)
    (rest : Net m k) (hrest : rest.Ok (layer θ)) (ℓ : Vec k → ℝ) (g : Vec k)
    (hl : IsGrad ℓ (rest.fwd (layer θ)) g) (p : ι) :
    HasDerivAt (fun s => ℓ (rest.fwd (layer (Function.update θ p s)))) (bθ (rest.bwd (layer θ) g) p) (θ p) := by
  have h1 : IsGrad (ℓ ∘ rest.fwd) (layer θ) (rest.bwd (layer θ) g) := Net.grad rest _ hrest ℓ g hl
  exact (IsGrad.comp_vjp hθ h1).partial p

abbrev NoKink := DenseStack.NoKink

theorem act_hasDerivAt (a : Act) (ha : a ≠ .softmax) (z : ℝ) (hz : NoKink a z) :
    HasDerivAt (Act.f a) (Act.df a z) z := DenseStack.act_hasDerivAt a ha z hz

/-- **`Dense::forward` is `a ∘ (W·x + b)` and `Dense::backward` returns its three transposed
    Jacobians** (`δ = a'(pre) ⊙ g`; input `Wᵀδ`, weights `δ ⊗ x`, bias `δ`) -/
theorem dense_backward_is_derivative {r c : ℕ} (l : DenseLayer ℝ) (a : Act) (W : V (Fin r × Fin c)) (b : Vec r)
    (hl : IsDense l a W b) (ha : a ≠ .softmax) (hr : 0 < r) (hc : 0 < c) (x : Vec c)
    (hk : ∀ i, NoKink a (densePre W b x i)) :
    l.forward (vecT x) = .ok (vecT (densePre W b x), vecT (denseFn (Act.f a) W b x)) ∧
    ∃ (bx : Vec r → Vec c) (bW : Vec r → V (Fin r × Fin c)) (bb : Vec r → Vec r),
      (∀ g, l.backward (vecT g) (vecT x) (vecT (densePre W b x)) = .ok (vecT (bx g), matT (bW g), some (vecT (bb g)))) ∧
      IsVJP (denseFn (Act.f a) W b) x bx ∧
      IsVJP (fun W' => denseFn (Act.f a) W' b x) W bW ∧
      IsVJP (fun b' => denseFn (Act.f a) W b' x) b bb := by
  refine ⟨forward_eq l a W b hl ha x, _, _, _, fun g => backward_eq l a W b hl ha hr hc x g, ?_, ?_, ?_⟩
  · exact DenseStack.vjp_dense a W b ha x hk
  · exact DenseStack.vjp_dense_weights a W b ha x hk
  · exact dense_vjp_bias (Act.f a) (Act.df a) W b x fun i => act_hasDerivAt a ha _ (hk i)

/-- spelled out for one weight: the entry `(i, j)` of the returned weight gradient is the partial
    derivative of the objective in `W[i][j]`, whatever differentiable computation `ℓ` follows the layer -/
theorem dense_weight_partial {r c : ℕ} (a : Act) (W : V (Fin r × Fin c)) (b : Vec r)
    (ha : a ≠ .softmax) (x : Vec c) (hk : ∀ i, NoKink a (densePre W b x i))
    (ℓ : Vec r → ℝ) (g : Vec r) (hg : IsGrad ℓ (denseFn (Act.f a) W b x) g) (i : Fin r) (j : Fin c) :
    HasDerivAt (fun s => ℓ (denseFn (Act.f a) (Function.update W (i, j) s) b x))
      (Act.df a (densePre W b x i) * g i * x j) (W (i, j)) := by
  have := (IsGrad.comp_vjp (DenseStack.vjp_dense_weights a W b ha x hk) hg).partial (i, j)
  simpa [weightGrad, delta] using this

/-- the objective's gradient `p − t` (`Obj.grad .ce`) … -/
theorem ce_objective_gradient (len t p : ℝ) : Obj.grad .ce len t p = p - t := rfl

/-- … is the gradient of the cross-entropy of the soft-max outputs with respect to the logits, for a
    target distribution `t` (`Σ t = 1`, e.g. one-hot) -/
theorem softmax_ce_gradient {n : ℕ} [NeZero n] (t z : Vec n) (ht : ∑ i, t i = 1) :
    IsGrad (ceSoftmax t) z (fun j => softmaxV z j - t j) := by
  have := ceSoftmax_grad t z
  simpa [ht] using this

/-- the model's soft-max is `softmaxV` -/
theorem softmax_model_eq {n : ℕ} (z : Vec n) :
    Act.softmaxL (List.ofFn z) = List.ofFn (softmaxV z) := by
  rw [C07.softmax_eq_math, List.map_ofFn]
  congr 1
  funext i
  simp only [Function.comp, softmaxV, expSum, List.map_ofFn, List.sum_ofFn]

/-- a soft-max dense layer does not multiply the upstream gradient by anything: `δ = g`
    (so with `g = p − t` its linear part receives the derivative with respect to the logits) -/
theorem softmax_dense_passes_gradient {r c : ℕ} (l : DenseLayer ℝ) (W : V (Fin r × Fin c)) (b : Vec r)
    (hl : IsDense l .softmax W b) (hr : 0 < r) (hc : 0 < c) (x : Vec c) (g : Vec r) (out : Tensor ℝ)
    (ho : out.shape = .single r) :
    l.backward (vecT g) (vecT x) out =
      .ok (vecT (inputGrad W g), matT (weightGrad g x), some (vecT g)) := by
  have h := backward_of_local l .softmax W b hl hr hc x g out (fun _ => 1) (by
    unfold DenseLayer.localDerivative
    rw [hl.act]
    simp only [ho, Tensor.ones, vecT, List.ofFn_const])
  simpa only [one_mul] using h

open DenseStack Walk LayerChain ChainLinks in
/-- **for every stack of dense layers (any depth, any widths, any element-wise activations, any weights
    and biases), on the model's own `Network.forward` and `Network.backward` folds**: the forward pass
    records the vector functions' values, and the last gradient `Network.backward` hands on — computed by
    the position-indexed reverse walk over the recorded trace — is the gradient of the objective with
    respect to the network input: every coordinate is the partial derivative.  (Away from ReLU kinks;
    `ℓ` is any objective differentiable at the output with gradient `g`.) -/
theorem mlp_backward_is_gradient {d k : ℕ} (n : Network ℝ) (s : Stack d k) (hn : n.layers = s.layers)
    (hc : n.connect = []) (hl : n.loopbacks = []) (x : Vec d) (hv : s.Valid) (hk : s.NoKinks x)
    (ℓ : Vec k → ℝ) (g : Vec k) (hg : IsGrad ℓ (s.net.fwd x) g) :
    ∃ t ws bs gs γ,
      n.forward (vecT x) = .ok t ∧ t.act.getLast? = some (vecT (s.net.fwd x)) ∧
      n.backward (vecT g) t = .ok (ws, bs, gs) ∧ gs.getLast? = some (vecT γ) ∧
      IsGrad (ℓ ∘ s.net.fwd) x γ ∧
      ∀ j, HasDerivAt (fun r => ℓ (s.net.fwd (Function.update x j r))) (γ j) (x j) := by
  obtain ⟨t, ws, bs, gs, h1, h2, h3, h4, h5, _⟩ := network_gradient n (stackChain s) (hn.trans (stackChain_layers s).symm)
    hc hl x (stackChain_real s x hv) (stackChain_ok s x hv hk) ℓ g (by rwa [stack_gnet_fwd])
  rw [funext (stack_gnet_fwd s)] at h5
  rw [stack_gnet_fwd] at h2
  rw [stack_gnet_bwd] at h4 h5
  exact ⟨t, ws, bs, gs, _, h1, h2, h3, h4, h5, fun j => h5.partial j⟩

open DenseStack Walk LayerChain ChainLinks in
/-- … and the weight gradient it records for the first layer is the gradient of the objective with
    respect to that layer's weight matrix, entry by entry (any later layer is the first layer of the
    sub-stack that starts there) -/
theorem mlp_first_layer_weight_gradient {d m k : ℕ} (n : Network ℝ) (a : Act) (W : V (Fin m × Fin d)) (b : Vec m)
    (rest : Stack m k) (hn : n.layers = (Stack.cons a W b rest).layers)
    (hc : n.connect = []) (x : Vec d) (hv : (Stack.cons a W b rest).Valid) (hk : (Stack.cons a W b rest).NoKinks x)
    (ℓ : Vec k → ℝ) (g : Vec k) (hg : IsGrad ℓ ((Stack.cons a W b rest).net.fwd x) g) :
    ∃ ws bs gs ω,
      n.backward (vecT g)
        { pre := (Stack.cons a W b rest).pres x, act := vecT x :: (Stack.cons a W b rest).acts x,
          recs := (Stack.cons a W b rest).layers.map (fun _ => Recorded.none) } = .ok (ws, bs, gs) ∧
      ws.getLast? = some (.one (matT ω)) ∧
      ∀ p, HasDerivAt (fun r => ℓ (rest.net.fwd (denseFn (Act.f a) (Function.update W p r) b x))) (ω p) (W p) := by
  obtain ⟨hp, ha, hr⟩ := stackChain_trace (Stack.cons a W b rest) x
  have hB := BackReal.of_sits ⟨(Stack.cons a W b rest).pres x, vecT x :: (Stack.cons a W b rest).acts x,
    (Stack.cons a W b rest).layers.map (fun _ => Recorded.none)⟩ (stackChain (Stack.cons a W b rest)) x 0
    (stackChain_real _ x hv) (hr ▸ sits_self _)
  have hb := network_backward n _ (hn.trans (stackChain_layers _).symm) hc x g _ hB (by rw [ha]; rfl) hp.symm
  refine ⟨_, _, _, weightGrad (delta (Act.df a) (densePre W b x) (rest.net.bwd (denseFn (Act.f a) W b x) g)) x, hb, ?_, ?_⟩
  · simp [stackChain, consDense, allGrads, denseWG, stack_gnet_bwd]
  exact parameter_gradient (fun W' => denseFn (Act.f a) W' b x) W _
    (vjp_dense_weights a W b hv.1 x hk.1) rest.net (Stack.net_ok rest _ hv.2.2.2 hk.2) ℓ g hg

open DenseStack in
/-- non-vacuity: a 3 → 2 → 2 perceptron (sigmoid, then leaky ReLU with positive pre-activations) meets
    every hypothesis of the two theorems above -/
example : (Stack.cons .sigmoid (fun _ : Fin 2 × Fin 3 => (1 : ℝ)) (fun _ => 0)
            (Stack.cons .linear (fun _ : Fin 2 × Fin 2 => (1 : ℝ)) (fun _ => 1) (.nil 2))).Valid ∧
          (Stack.cons .sigmoid (fun _ : Fin 2 × Fin 3 => (1 : ℝ)) (fun _ => 0)
            (Stack.cons .linear (fun _ : Fin 2 × Fin 2 => (1 : ℝ)) (fun _ => 1) (.nil 2))).NoKinks (fun _ => 1) := by
  refine ⟨⟨by decide, by decide, by decide, by decide, by decide, by decide, trivial⟩, ⟨?_, ?_, trivial⟩⟩
  · intro i h; rcases h with h | h <;> cases h
  · intro i h; rcases h with h | h <;> cases h

/-! ### spatial layers: backward is the transpose of forward, for every configuration

The pre-activation of a convolution / deconvolution is bilinear in (kernels, input), that of a
max-pool away from ties is the selection of the recorded arg-max positions; the derivative of a
(bi)linear map is the map itself, so "backward returns the derivative" is the adjoint identity
`⟨δ, forward(direction)⟩ = ⟨backward(δ), direction⟩` for every direction — proved here for **every
stride, dilation, padding, kernel size, channel and filter count** (`δ = g ⊙ act′(pre)` is formed
element-wise exactly as in the dense layer).  `ip3`/`ip4` are the inner products over an index box. -/

open Adjoint Adjoint4 in
/-- deconvolution, input: `⟨δ, deconv_K(v)⟩ = ⟨gx(δ), v⟩` -/
theorem deconv_input_gradient_is_transpose (l : Deconv ℝ) (x v : V3 ℝ) (ks : List (V3 ℝ)) (delta : V3 ℝ)
    (kf kc ih iw kh kw oh ow : ℕ) :
    ip3 kf oh ow (Deconv.scatter v ks kf kc (Deconv.taps l ih iw kh kw oh ow) oh ow) delta =
      ip3 kc ih iw (Deconv.gradPass x ks delta kf kc kh kw ih iw (Deconv.taps l ih iw kh kw oh ow)).1 v :=
  DeconvAdjoint.input_adjoint l x v ks delta kf kc ih iw kh kw oh ow

open Adjoint Adjoint4 in
/-- deconvolution, kernels: `⟨δ, deconv_{dK}(x)⟩ = ⟨gK(δ), dK⟩` -/
theorem deconv_kernel_gradient_is_transpose (l : Deconv ℝ) (x : V3 ℝ) (ks dK : List (V3 ℝ)) (delta : V3 ℝ)
    (kf kc ih iw kh kw oh ow : ℕ) :
    ip3 kf oh ow (Deconv.scatter x dK kf kc (Deconv.taps l ih iw kh kw oh ow) oh ow) delta =
      ip4 kf kc kh kw (Deconv.gradPass x ks delta kf kc kh kw ih iw (Deconv.taps l ih iw kh kw oh ow)).2 dK :=
  DeconvAdjoint.kernel_adjoint l x ks dK delta kf kc ih iw kh kw oh ow

open Adjoint Finset in
/-- convolution, input (through the zero padding and the crop): for every direction `v` of the
    input's shape, `⟨δ, conv_K(pad v)⟩ = ⟨crop(padded gradient(δ)), v⟩` -/
theorem conv_input_gradient_is_transpose (l : Conv ℝ) (ks : List (V3 ℝ)) (delta v : V3 ℝ)
    (kf kc kh kw oh ow ih iw : ℕ) (hv : L.Dims3 v kc ih iw) (hc : 0 < kc) (hih : 0 < ih) :
    ∃ vp, Tensor.pad3d v (ih + 2 * l.padding.1) (iw + 2 * l.padding.2) = .ok vp ∧
      (∑ f ∈ range kf, ∑ m ∈ range oh, ∑ n ∈ range ow,
        L.get3D 0 delta f m n *
          Conv.convolveAt l vp (ks.getD f []) kc kh kw (ih + 2 * l.padding.1) (iw + 2 * l.padding.2) m n) =
      ip3 kc ih iw (Conv.crop l (Conv.paddedInputGrad l ks delta kf kc kh kw oh ow
        (ih + 2 * l.padding.1) (iw + 2 * l.padding.2)) ih iw) v := by
  obtain ⟨vp, hp, hget⟩ := C02.pad3d_get v kc ih iw l.padding.1 l.padding.2 hv hc hih
  refine ⟨vp, hp, ?_⟩
  rw [ConvAdjoint.padded_input_adjoint]
  exact ConvAdjoint.pad_crop_adjoint l _ v vp kc ih iw hget

open Adjoint4 Finset in
/-- convolution, kernels: `⟨δ, conv_{dK}(x̃)⟩ = ⟨gK(δ), dK⟩` -/
theorem conv_kernel_gradient_is_transpose (l : Conv ℝ) (dK : List (V3 ℝ)) (delta xp : V3 ℝ) (kf kc kh kw oh ow ph pw : ℕ) :
    (∑ f ∈ range kf, ∑ m ∈ range oh, ∑ n ∈ range ow,
        L.get3D 0 delta f m n * Conv.convolveAt l xp (dK.getD f []) kc kh kw ph pw m n) =
      ∑ f ∈ range kf, ∑ c ∈ range kc, ∑ h ∈ range kh, ∑ w ∈ range kw,
        L.get4D 0 (Conv.kernelGrad l xp delta kf kc kh kw oh ow ph pw) f c h w * L.get4D 0 dK f c h w :=
  ConvAdjoint.kernel_adjoint l dK delta xp kf kc kh kw oh ow ph pw

open Adjoint in
/-- max-pool: `⟨routed gradient, v⟩ = Σ og[c][h][w] · v[c][recorded arg-max of (c,h,w)]` -/
theorem maxpool_gradient_is_transpose (l : Maxpool ℝ) (hl : l.loops = 1) (max : MaxIdx) (og v : V3 ℝ)
    (pos : List (ℕ × ℕ × ℕ)) (ic ih iw : ℕ)
    (hpos : ∀ p ∈ pos, p.1 < ic ∧ ∀ q ∈ L.get3D [] max p.1 p.2.1 p.2.2, q.1 < ih ∧ q.2 < iw) :
    ip3 ic ih iw (Maxpool.route l max og pos ic ih iw) v =
      (pos.map (fun p => L.get3D 0 og p.1 p.2.1 p.2.2 *
        ((L.get3D [] max p.1 p.2.1 p.2.2).map (fun q => L.get3D 0 v p.1 q.1 q.2)).sum)).sum :=
  MaxpoolVJP.route_adjoint l hl max og v pos ic ih iw hpos

/-! ### spatial layers as differentiable vector functions: the model's backward passes are their
transposed Jacobians

`ConvVJP.convPre`, `DeconvVJP.deconvPre`, `MaxpoolVJP.select` are the layers' pre-activation maps on
vectors indexed by `Fin c × Fin h × Fin w`, defined *through the model's own functions* (`convolveAt`,
`Deconv.scatter`, the recorded indices); `convBwd`, `convBwdK`, `deconvBwd`, `deconvBwdK`, `routeV` are
what the model's backward passes (`Conv.crop ∘ paddedInputGrad`, `kernelGrad`, `Deconv.gradPass`,
`Maxpool.route`) return.  With `isVJP_elementwise` (the activation) and `isVJP_reindex` (flatten /
reshape) these are the building blocks of `heterogeneous_walk_is_gradient` below. -/

open ConvVJP in
/-- convolution, input: every stride, dilation, padding, kernel size, channel and filter count -/
theorem conv_backward_is_transposed_jacobian (l : Conv ℝ) (ks : List (V3 ℝ)) (kf kc kh kw ih iw oh ow : ℕ)
    (hkc : 0 < kc) (hih : 0 < ih) (x : V (I3 kc ih iw)) :
    IsVJP (convPre l ks kf kc kh kw ih iw oh ow) x (convBwd l ks kf kc kh kw ih iw oh ow) :=
  conv_isVJP l ks kf kc kh kw ih iw oh ow hkc hih x

open ConvVJP in
/-- convolution with its element-wise activation (differentiable at every pre-activation) -/
theorem conv_layer_backward_is_transposed_jacobian (l : Conv ℝ) (ks : List (V3 ℝ)) (kf kc kh kw ih iw oh ow : ℕ)
    (a : Act) (ha : a ≠ .softmax) (hkc : 0 < kc) (hih : 0 < ih) (x : V (I3 kc ih iw))
    (hk : ∀ i, NoKink a (convPre l ks kf kc kh kw ih iw oh ow x i)) :
    IsVJP (fun y => fun i => Act.f a (convPre l ks kf kc kh kw ih iw oh ow y i)) x
      (fun g => convBwd l ks kf kc kh kw ih iw oh ow
        (fun i => Act.df a (convPre l ks kf kc kh kw ih iw oh ow x i) * g i)) :=
  conv_layer_isVJP l ks kf kc kh kw ih iw oh ow (Act.f a) (Act.df a) hkc hih x
    (fun i => act_hasDerivAt a ha _ (hk i))

open ConvVJP in
/-- convolution, kernels -/
theorem conv_kernel_gradient_is_transposed_jacobian (l : Conv ℝ) (kf kc kh kw oh ow : ℕ) (xp : V3 ℝ) (ph pw : ℕ)
    (K : V (I4 kf kc kh kw)) :
    IsVJP (convPreK l kf kc kh kw oh ow xp ph pw) K (convBwdK l kf kc kh kw oh ow xp ph pw) :=
  conv_kernel_isVJP l kf kc kh kw oh ow xp ph pw K

open ConvVJP DeconvVJP in
/-- deconvolution, input and kernels -/
theorem deconv_backward_is_transposed_jacobian (l : Deconv ℝ) (kf kc kh kw ih iw oh ow : ℕ) (ks : List (V3 ℝ))
    (x0 : V3 ℝ) (x : V (I3 kc ih iw)) (K : V (I4 kf kc kh kw)) :
    IsVJP (deconvPre l kf kc kh kw ih iw oh ow ks) x (deconvBwd l kf kc kh kw ih iw oh ow ks x0) ∧
    IsVJP (deconvPreK l kf kc kh kw ih iw oh ow x0) K (deconvBwdK l kf kc kh kw ih iw oh ow x0 ks) :=
  ⟨deconv_isVJP l kf kc kh kw ih iw oh ow ks x0 x, deconv_kernel_isVJP l kf kc kh kw ih iw oh ow x0 ks K⟩

open ConvVJP MaxpoolVJP in
/-- max-pool (away from ties the pool is locally the selection of the recorded positions) -/
theorem maxpool_backward_is_transposed_jacobian (l : Maxpool ℝ) (max : MaxIdx) (ic ih iw oh ow : ℕ) (hl : l.loops = 1)
    (hidx : ∀ c h w, c < ic → h < oh → w < ow → ∀ q ∈ L.get3D [] max c h w, q.1 < ih ∧ q.2 < iw)
    (x : V (I3 ic ih iw)) :
    IsVJP (select max ic ih iw oh ow) x (routeV l max ic ih iw oh ow) :=
  maxpool_isVJP l max ic ih iw oh ow hl hidx x

/-- **any mix and order of layer kinds, any depth**: a stack between arbitrary finite index types whose
    layers' backward functions are their transposed Jacobians (dense, convolution, deconvolution,
    max-pool, activations, flatten — the theorems above) yields, by the reverse walk, the gradient of
    any differentiable objective; every coordinate is the partial derivative -/
theorem heterogeneous_walk_is_gradient {a c : Idx} [DecidableEq a.T] (net : GNet a c) (x : V a.T) (h : net.Ok x)
    (ℓ : V c.T → ℝ) (g : V c.T) (hl : IsGrad ℓ (net.fwd x) g) (j : a.T) :
    IsGrad (ℓ ∘ net.fwd) x (net.bwd x g) ∧
    HasDerivAt (fun r => ℓ (net.fwd (Function.update x j r))) (net.bwd x g j) (x j) :=
  ⟨GNet.grad net x h ℓ g hl, (GNet.grad net x h ℓ g hl).partial j⟩

theorem softmax_forward_vec {n : ℕ} (z : Vec n) : Act.forward .softmax (vecT z) = .ok (vecT (softmaxV z)) := by
  simp only [Act.forward, Act.softmaxFwd, vecT, Tensor.getFlat, softmax_model_eq, Tensor.single, Tensor.reshape,
    List.length_ofFn]

/-- **soft-max dense output layer under cross-entropy, on the model's own forward / objective /
    backward**: the forward pass outputs `p = softmax(Wx + b)`, the objective's gradient is `p − t`,
    and what `Dense::backward` returns for it — `Wᵀ(p − t)`, `(p − t) ⊗ x`, `p − t` — are the gradients
    of `x ↦ CE(t, softmax(Wx + b))` with respect to the input, the weights and the bias
    (for a target distribution `t`) -/
theorem softmax_output_layer_gradients {r c : ℕ} [NeZero r] (l : DenseLayer ℝ) (W : V (Fin r × Fin c)) (b : Vec r)
    (hl : IsDense l .softmax W b) (hr : 0 < r) (hc : 0 < c) (x : Vec c) (t : Vec r) (ht : ∑ i, t i = 1) :
    l.forward (vecT x) = .ok (vecT (densePre W b x), vecT (softmaxV (densePre W b x))) ∧
    (∀ len i, Obj.grad .ce len (t i) (softmaxV (densePre W b x) i) = softmaxV (densePre W b x) i - t i) ∧
    l.backward (vecT (fun i => softmaxV (densePre W b x) i - t i)) (vecT x) (vecT (densePre W b x)) =
      .ok (vecT (inputGrad W (fun i => softmaxV (densePre W b x) i - t i)),
           matT (weightGrad (fun i => softmaxV (densePre W b x) i - t i) x),
           some (vecT (fun i => softmaxV (densePre W b x) i - t i))) ∧
    IsGrad (fun x' => ceSoftmax t (densePre W b x')) x (inputGrad W (fun i => softmaxV (densePre W b x) i - t i)) ∧
    IsGrad (fun W' => ceSoftmax t (densePre W' b x)) W (weightGrad (fun i => softmaxV (densePre W b x) i - t i) x) ∧
    IsGrad (fun b' => ceSoftmax t (densePre W b' x)) b (fun i => softmaxV (densePre W b x) i - t i) := by
  have hce := softmax_ce_gradient t (densePre W b x) ht
  exact ⟨forward_of_act l .softmax W b hl x _ (softmax_forward_vec _), fun _ _ => rfl,
    softmax_dense_passes_gradient l W b hl hr hc x _ _ rfl,
    IsGrad.comp_vjp (densePre_isVJP_x W b x) hce, IsGrad.comp_vjp (densePre_isVJP_W W b x) hce,
    IsGrad.comp_vjp (densePre_isVJP_b W b x) hce⟩

open BlockWalk in
/-- **`Feedback::backward` of a block without skip connections is the plain reverse walk over its unrolled
    layers** (any inner layers, any scalar type): position `i` gets the gradient position `i+1` produced,
    the activation it consumed and its own pre-activation; the block hands back the last input gradient -/
theorem block_reverse_walk {α : Type} [Scalar α] (f : Feedback α) (hc : f.connect = []) (g : Tensor α)
    (un act : List (Tensor α)) :
    f.backward g un act =
      match blockBackSpec un act (List.zip (List.range f.layers.length) f.layers).reverse g with
      | .error e => .error e
      | .ok (gs, ws, bs) => .ok (lastGrad g gs, ws, bs) :=
  backward_eq_blockBackSpec f hc g un act

open DenseStack DenseBlock in
/-- **a feedback block that unrolls to a stack of dense layers (any depth and widths, element-wise
    activations, no skip connections), on the model's own `Feedback.forwardAll` / `Feedback.backward`
    folds**: forward records the stack's values, and backward — on exactly what forward recorded — hands
    back the gradient of the objective with respect to the block's input -/
theorem dense_block_backward_is_gradient {d k : ℕ} (f : Feedback ℝ) (s : Stack d k)
    (hf : IsDenseBlock f s) (hpos : 0 < s.layers.length) (x : Vec d) (hv : s.Valid) (hk : s.NoKinks x)
    (ℓ : Vec k → ℝ) (g : Vec k) (hg : IsGrad ℓ (s.net.fwd x) g) :
    ∃ un act mx ws bs γ,
      f.forwardAll (vecT x) = .ok (un, act, mx) ∧ act.getLast? = some (vecT (s.net.fwd x)) ∧
      f.backward (vecT g) un act = .ok (vecT γ, ws, bs) ∧
      IsGrad (ℓ ∘ s.net.fwd) x γ ∧
      ∀ j, HasDerivAt (fun r => ℓ (s.net.fwd (Function.update x j r))) (γ j) (x j) := by
  obtain ⟨ws, bs, hb⟩ := block_backward f s hf hv x g
  have hgrad := Net.grad s.net x (Stack.net_ok s x hv hk) ℓ g hg
  exact ⟨_, _, _, ws, bs, s.net.bwd x g, block_forwardAll f s hf hv hpos x, DenseBlock.acts_last s x, hb, hgrad,
    fun j => hgrad.partial j⟩

open ConvVJP ConvBridge in
/-- **`Convolution::forward` is `a ∘ conv_K` and `Convolution::backward` returns its two transposed
    Jacobians**, as statements about the model's `Conv.forward` / `Conv.backward` themselves (entry,
    padding, `convolve`, activation, Hadamard product, scatter, crop, the `Except` plumbing): for every
    stride, dilation, padding, kernel size, channel and filter count -/
theorem conv_layer_backward_is_derivative {kf kc kh kw ih iw oh ow : ℕ} (l : Conv ℝ) (a : Act) (K : V (I4 kf kc kh kw))
    (hl : IsConv l a K ih iw oh ow) (ha : a ≠ .softmax) (hfl : l.flatten = false) (x : V (I3 kc ih iw))
    (hk : ∀ i, NoKink a (pre l K ih iw oh ow x i)) :
    l.forward (T3 x) = .ok (T3 (pre l K ih iw oh ow x), T3 (fun i => Act.f a (pre l K ih iw oh ow x i))) ∧
    ∃ (bx : V (I3 kf oh ow) → V (I3 kc ih iw)) (bK : V (I3 kf oh ow) → V (I4 kf kc kh kw)),
      (∀ g, l.backward (T3 g) (T3 x) (T3 (pre l K ih iw oh ow x)) = .ok (T3 (bx g), T4 (bK g), none)) ∧
      IsVJP (fun x' => fun i => Act.f a (pre l K ih iw oh ow x' i)) x bx ∧
      IsVJP (fun K' => fun i => Act.f a (pre l K' ih iw oh ow x i)) K bK :=
  ⟨ConvBridge.forward_eq l a K hl ha hfl x, ChainLinks.convBwdX l a K ih iw oh ow x,
    ChainLinks.convBwdKer l a K ih iw oh ow x, fun g => ChainLinks.conv_backward_eq l a K hl ha x g (T3 g) rfl,
    ChainLinks.vjp_conv l a K hl ha x hk, ChainLinks.vjp_conv_kernels l a K hl ha x hk⟩

open ConvVJP ConvBridge ConvNet Flat3 DenseStack LayerChain ChainLinks in
/-- **end to end for a network mixing spatial and dense layers** — a convolution (any configuration,
    element-wise activation, flattened because a dense layer follows) followed by a stack of dense layers of
    any depth — **on the model's own `Network.forward` / `Network.backward` folds**: forward ends in the
    network function's value; the last gradient backward hands on is the gradient of the objective with
    respect to the input image; the weight gradient recorded for the convolution is the gradient with
    respect to its kernels; every coordinate of both is the partial derivative -/
theorem conv_then_dense_network_gradients {kf kc kh kw ih iw oh ow k : ℕ} (n : Network ℝ) (l : Conv ℝ) (a : Act)
    (K : V (I4 kf kc kh kw)) (hl : IsConv l a K ih iw oh ow) (ha : a ≠ .softmax) (hfl : l.flatten = true)
    (s : Stack (kf * oh * ow) k) (hn : n.layers = .conv l :: s.layers) (hc : n.connect = []) (hlb : n.loopbacks = [])
    (hv : s.Valid) (x : V (I3 kc ih iw)) (hk : ∀ i, NoKink a (pre l K ih iw oh ow x i))
    (hks : s.NoKinks (flat (convFn l a K ih iw oh ow x)))
    (ℓ : Vec k → ℝ) (g : Vec k) (hg : IsGrad ℓ (netFn l a K ih iw s x) g) :
    ∃ t ws bs gs γ ω,
      n.forward (T3 x) = .ok t ∧ t.act.getLast? = some (vecT (netFn l a K ih iw s x)) ∧
      n.backward (vecT g) t = .ok (ws, bs, gs) ∧ gs.getLast? = some (T3 γ) ∧ ws.getLast? = some (.one (T4 ω)) ∧
      IsGrad (ℓ ∘ netFn l a K ih iw s) x γ ∧
      IsGrad (fun K' => ℓ (netFn l a K' ih iw s x)) K ω ∧
      (∀ q, HasDerivAt (fun r => ℓ (netFn l a K ih iw s (Function.update x q r))) (γ q) (x q)) ∧
      (∀ q, HasDerivAt (fun r => ℓ (netFn l a (Function.update K q r) ih iw s x)) (ω q) (K q)) := by
  obtain ⟨t, ws, bs, gs, h1, h2, h3, h4, h5, h6, h7⟩ := first_link_gradients (ι := I4 kf kc kh kw)
    (a := iVol kc ih iw) (b := iVec (kf * oh * ow)) (ea := eVol kc ih iw) (eb := eVec (kf * oh * ow)) n (.conv l)
    (fun K' z => flat (convFn l a K' ih iw oh ow z)) K (fun z g => convBwdX l a K ih iw oh ow z (unflat g))
    (fun z => T3 (pre l K ih iw oh ow z)) (fun _ => .none)
    (fun z g => (.one (T4 (convBwdKer l a K ih iw oh ow z (unflat g))), .one none)) (stackChain s)
    (by rw [hn, stackChain_layers]) hc hlb x
    (real_conv_flat l a K hl ha hfl x) (stackChain_real s _ hv)
    (vjp_conv_flat l a K hl ha x hk) (stackChain_ok s _ hv hks)
    (fun g => convBwdKer l a K ih iw oh ow x (unflat g))
    (IsVJP.comp (vjp_conv_kernels l a K hl ha x hk) (flat_isVJP _)) ℓ g (by rwa [stack_gnet_fwd])
  simp only [stack_gnet_fwd, stack_gnet_bwd] at h2 h4 h5 h6 h7
  exact ⟨t, ws, bs, gs, _, _, h1, h2, h3, h4, h5, h6, h7, fun q => h6.partial q, fun q => h7.partial q⟩

open LayerChain in
/-- **the general end-to-end theorem**: a network (no skip / loop connections) whose layers are *any*
    sequence of model layers each of which realises a vector function between tensor encodings —
    `layerForward` returns the encoded value, `layerBackward` returns the encoded backward function — computes,
    on the model's own `Network.forward` / `Network.backward` folds, the composition and its reverse-mode
    composition; when every backward function is the transposed Jacobian at the point it is evaluated at,
    the last gradient handed on is the gradient of the objective with respect to the network input, and the
    weight and bias gradients recorded are, layer by layer (`allGrads`, last layer first), each layer's gradient
    function applied to the gradient the layers after it handed back -/
theorem layer_sequence_network_gradient {a : Idx} {ea : Enc a} {c : Idx} {ec : Enc c} (n : Network ℝ) (ch : Chain a ea c ec)
    (hn : n.layers = layers ch) (hc : n.connect = []) (hl : n.loopbacks = []) (x : V a.T) (hr : Real ch x)
    (hok : (gnet ch).Ok x) (ℓ : V c.T → ℝ) (g : V c.T) (hg : IsGrad ℓ ((gnet ch).fwd x) g) :
    ∃ t ws bs gs,
      n.forward (ea x) = .ok t ∧ t.act.getLast? = some (ec ((gnet ch).fwd x)) ∧
      n.backward (ec g) t = .ok (ws, bs, gs) ∧ gs.getLast? = some (ea ((gnet ch).bwd x g)) ∧
      IsGrad (ℓ ∘ (gnet ch).fwd) x ((gnet ch).bwd x g) ∧ FirstGrads ch x g ws bs ∧
      ws = (allGrads ch x g).map (·.1) ∧ bs = (allGrads ch x g).map (·.2) :=
  network_gradient n ch hn hc hl x hr hok ℓ g hg

open Network ChainLinks ConvVJP ConvBridge ConvNet Flat3 in
/-- the layer kinds are such links: **dense** … -/
theorem dense_is_link {r c : ℕ} (l : DenseLayer ℝ) (a : Act) (W : V (Fin r × Fin c)) (b : Vec r) (hl : IsDense l a W b)
    (ha : a ≠ .softmax) (hr : 0 < r) (hc : 0 < c) (x : Vec c) (hk : ∀ i, NoKink a (densePre W b x i)) :
    (layerForward (.dense l) (vecT x) = .ok (vecT (densePre W b x), vecT (denseFn (Act.f a) W b x), .none) ∧
     ∀ g, layerBackward (.dense l) (vecT g) (vecT x) (vecT (densePre W b x)) (.ok .none) =
      .ok (vecT (denseBwd a W b x g), (denseWG a W b x g).1, (denseWG a W b x g).2)) ∧
    IsVJP (denseFn (Act.f a) W b) x (denseBwd a W b x) :=
  ⟨real_dense l a W b hl ha hr hc x, DenseStack.vjp_dense a W b ha x hk⟩

open Network ChainLinks ConvVJP ConvBridge ConvNet Flat3 in
/-- … **convolution** followed by another spatial layer (input gradient and kernel gradient) … -/
theorem conv_is_link {kf kc kh kw ih iw oh ow : ℕ} (l : Conv ℝ) (a : Act) (K : V (I4 kf kc kh kw))
    (hl : IsConv l a K ih iw oh ow) (ha : a ≠ .softmax) (hfl : l.flatten = false) (x : V (I3 kc ih iw))
    (hk : ∀ i, NoKink a (pre l K ih iw oh ow x i)) :
    (layerForward (.conv l) (T3 x) = .ok (T3 (pre l K ih iw oh ow x), T3 (convFn l a K ih iw oh ow x), .none) ∧
     ∀ g, layerBackward (.conv l) (T3 g) (T3 x) (T3 (pre l K ih iw oh ow x)) (.ok .none) =
      .ok (T3 (convBwdX l a K ih iw oh ow x g), .one (T4 (convBwdKer l a K ih iw oh ow x g)), .one none)) ∧
    IsVJP (convFn l a K ih iw oh ow) x (convBwdX l a K ih iw oh ow x) ∧
    IsVJP (fun K' => convFn l a K' ih iw oh ow x) K (convBwdKer l a K ih iw oh ow x) :=
  ⟨real_conv l a K hl ha hfl x, vjp_conv l a K hl ha x hk, vjp_conv_kernels l a K hl ha x hk⟩

open Network ChainLinks ConvVJP ConvBridge ConvNet Flat3 in
/-- … and **convolution followed by a dense layer** (output flattened, gradient read back as `kf × oh × ow`) -/
theorem conv_flat_is_link {kf kc kh kw ih iw oh ow : ℕ} (l : Conv ℝ) (a : Act) (K : V (I4 kf kc kh kw))
    (hl : IsConv l a K ih iw oh ow) (ha : a ≠ .softmax) (hfl : l.flatten = true) (x : V (I3 kc ih iw))
    (hk : ∀ i, NoKink a (pre l K ih iw oh ow x i)) :
    (layerForward (.conv l) (T3 x) = .ok (T3 (pre l K ih iw oh ow x), vecT (flat (convFn l a K ih iw oh ow x)), .none) ∧
     ∀ g : Vec (kf * oh * ow), layerBackward (.conv l) (vecT g) (T3 x) (T3 (pre l K ih iw oh ow x)) (.ok .none) =
      .ok (T3 (convBwdX l a K ih iw oh ow x (unflat g)), .one (T4 (convBwdKer l a K ih iw oh ow x (unflat g))), .one none)) ∧
    IsVJP (fun x => flat (convFn l a K ih iw oh ow x)) x (fun g => convBwdX l a K ih iw oh ow x (unflat g)) :=
  ⟨real_conv_flat l a K hl ha hfl x, vjp_conv_flat l a K hl ha x hk⟩

open Network ChainLinks ConvVJP DeconvBridge Flat3 in
/-- … **deconvolution** on the model's own `Deconv.forward` / `Deconv.backward` (entry, the scatter loops, activation,
    Hadamard product, the backward scatter `gradPass`), every stride, padding, kernel, channel and filter count:
    a link whose backward is the transposed Jacobian in the input, and whose recorded kernel gradient is the
    transposed Jacobian in the kernels … -/
theorem deconv_is_link {kf kc kh kw ih iw oh ow : ℕ} (l : Deconv ℝ) (a : Act) (K : V (I4 kf kc kh kw))
    (hl : IsDeconv l a K ih iw oh ow) (ha : a ≠ .softmax) (hfl : l.flatten = false) (x : V (I3 kc ih iw))
    (hk : ∀ i, NoKink a (DeconvBridge.pre l K ih iw oh ow x i)) :
    (layerForward (.deconv l) (ConvBridge.T3 x) =
        .ok (ConvBridge.T3 (DeconvBridge.pre l K ih iw oh ow x), ConvBridge.T3 (deconvFn l a K ih iw oh ow x), .none) ∧
     ∀ g, layerBackward (.deconv l) (ConvBridge.T3 g) (ConvBridge.T3 x) (ConvBridge.T3 (DeconvBridge.pre l K ih iw oh ow x)) (.ok .none) =
      .ok (ConvBridge.T3 (bwdX l a K ih iw oh ow x g), .one (ConvBridge.T4 (bwdKer l a K ih iw oh ow x g)), .one none)) ∧
    IsVJP (deconvFn l a K ih iw oh ow) x (bwdX l a K ih iw oh ow x) ∧
    IsVJP (fun K' => deconvFn l a K' ih iw oh ow x) K (bwdKer l a K ih iw oh ow x) :=
  ⟨real_deconv l a K hl ha hfl x, vjp_deconv l a K ha x hk, vjp_deconv_kernels l a K ha x hk⟩

open Network ChainLinks ConvVJP DeconvBridge Flat3 in
/-- … also when a dense layer follows (flattened output) -/
theorem deconv_flat_is_link {kf kc kh kw ih iw oh ow : ℕ} (l : Deconv ℝ) (a : Act) (K : V (I4 kf kc kh kw))
    (hl : IsDeconv l a K ih iw oh ow) (ha : a ≠ .softmax) (hfl : l.flatten = true) (x : V (I3 kc ih iw))
    (hk : ∀ i, NoKink a (DeconvBridge.pre l K ih iw oh ow x i)) :
    (layerForward (.deconv l) (ConvBridge.T3 x) =
        .ok (ConvBridge.T3 (DeconvBridge.pre l K ih iw oh ow x), vecT (flat (deconvFn l a K ih iw oh ow x)), .none) ∧
     ∀ g : Vec (kf * oh * ow), layerBackward (.deconv l) (vecT g) (ConvBridge.T3 x) (ConvBridge.T3 (DeconvBridge.pre l K ih iw oh ow x)) (.ok .none) =
      .ok (ConvBridge.T3 (bwdX l a K ih iw oh ow x (unflat g)), .one (ConvBridge.T4 (bwdKer l a K ih iw oh ow x (unflat g))), .one none)) ∧
    IsVJP (fun x => flat (deconvFn l a K ih iw oh ow x)) x (fun g => bwdX l a K ih iw oh ow x (unflat g)) :=
  ⟨real_deconv_flat l a K hl ha hfl x, vjp_deconv_flat l a K ha x hk⟩

open Network ChainLinks DenseStack DenseBlock in
/-- … and a **feedback block that unrolls to a stack of dense layers** (no internal skips; any number of
    loops, since the unrolled list is what the block holds) is a link: as a layer of `Network.forward` /
    `Network.backward` it computes the stack's function, and hands back the stack's reverse-mode gradient -/
theorem dense_block_is_link {n k : ℕ} (f : Feedback ℝ) (s : Stack n k) (hf : IsDenseBlock f s) (hv : s.Valid)
    (hpos : 0 < s.layers.length) (x : Vec n) (hk : s.NoKinks x) :
    (layerForward (.feedback f) (vecT x) = .ok ((s.pres x).head?.getD (vecT x), vecT (s.net.fwd x), blockRec s x) ∧
     ∀ g, layerBackward (.feedback f) (vecT g) (vecT x) ((s.pres x).head?.getD (vecT x)) (.ok (blockRec s x)) =
      .ok (vecT (s.net.bwd x g), (blockWG f s x g).1, (blockWG f s x g).2)) ∧
    IsVJP s.net.fwd x (s.net.bwd x) :=
  ⟨real_block f s hf hv hpos x, vjp_block s hv x hk⟩

open Network ChainLinks ConvVJP ConvBridge MaxpoolBridge MaxpoolLocal Flat3 in
/-- … **max-pool** on the model's own `Maxpool.forward` / `Maxpool.backward` (entry, the window loops writing
    value and arg-max position, the validity check of the recorded positions, the routing loop): its forward is
    the window maximum `poolFn`, it records the arg-max positions, and — at any input without ties — routing the
    gradient to the recorded positions is the transposed Jacobian of the pool itself (the pool is locally the
    selection of those positions) … -/
theorem maxpool_is_link {ic ih iw oh ow : ℕ} (l : Maxpool ℝ) (hl : IsPool l ic ih iw oh ow) (hfl : l.flatten = false)
    (x : V (I3 ic ih iw)) (hnt : NoTies l ih iw oh ow x) :
    (layerForward (.maxpool l) (T3 x) =
        .ok (T3 (poolFn l ih iw oh ow x), T3 (poolFn l ih iw oh ow x), .max (idxOf l ih iw oh ow x)) ∧
     ∀ g pre, layerBackward (.maxpool l) (T3 g) (T3 x) pre (.ok (.max (idxOf l ih iw oh ow x))) =
      .ok (T3 (poolBwd l ih iw oh ow x g), .one (Tensor.single []), .one none)) ∧
    IsVJP (poolFn l ih iw oh ow) x (poolBwd l ih iw oh ow x) :=
  ⟨real_pool l hl hfl x, pool_isVJP l hl x hnt⟩

open Network ChainLinks ConvVJP ConvBridge MaxpoolBridge MaxpoolLocal Flat3 in
/-- … also when a dense layer follows (flattened output) -/
theorem maxpool_flat_is_link {ic ih iw oh ow : ℕ} (l : Maxpool ℝ) (hl : IsPool l ic ih iw oh ow) (hfl : l.flatten = true)
    (x : V (I3 ic ih iw)) (hnt : NoTies l ih iw oh ow x) :
    (layerForward (.maxpool l) (T3 x) =
        .ok (T3 (poolFn l ih iw oh ow x), vecT (flat (poolFn l ih iw oh ow x)), .max (idxOf l ih iw oh ow x)) ∧
     ∀ (g : Vec (ic * oh * ow)) pre, layerBackward (.maxpool l) (vecT g) (T3 x) pre (.ok (.max (idxOf l ih iw oh ow x))) =
      .ok (T3 (poolBwd l ih iw oh ow x (unflat g)), .one (Tensor.single []), .one none)) ∧
    IsVJP (fun x => flat (poolFn l ih iw oh ow x)) x (fun g => poolBwd l ih iw oh ow x (unflat g)) :=
  ⟨real_pool_flat l hl hfl x, vjp_pool_flat l hl x hnt⟩

open MaxpoolBridge in
/-- non-vacuity: a 2×3 pool with stride (2,1) on a 3×5×4 input -/
example : IsPool ({ inputs := .triple 3 5 4, outputs := .triple 3 2 2, loops := 1, kernel := (2, 3), stride := (2, 1), flatten := true } : Maxpool ℝ) 3 5 4 2 2 :=
  ⟨rfl, rfl, by decide, by decide, by decide, by decide, by decide, by decide, rfl, by decide⟩

open Network ChainLinks LayerChain ConvVJP ConvBridge MaxpoolBridge MaxpoolLocal ConvNet Flat3 DenseStack in
/-- **convolution → max-pool → (flatten) → dense stack of any depth** (the classic CNN shape), every configuration of
    both spatial layers, on the model's own `Network.forward` / `Network.backward` folds: the input gradient and the
    convolution's kernel gradient are the gradients of the objective (away from activation kinks and pooling ties) -/
theorem conv_pool_mlp_gradients {c0 h0 w0 f1 kh1 kw1 h1 w1 h2 w2 k : ℕ} (n : Network ℝ)
    (l1 : Conv ℝ) (a1 : Act) (K1 : V (I4 f1 c0 kh1 kw1)) (hl1 : IsConv l1 a1 K1 h0 w0 h1 w1) (ha1 : a1 ≠ .softmax) (hf1 : l1.flatten = false)
    (l2 : Maxpool ℝ) (hl2 : IsPool l2 f1 h1 w1 h2 w2) (hf2 : l2.flatten = true)
    (s : Stack (f1 * h2 * w2) k) (hv : s.Valid)
    (hn : n.layers = .conv l1 :: .maxpool l2 :: s.layers) (hc : n.connect = []) (hlb : n.loopbacks = [])
    (x : V (I3 c0 h0 w0))
    (hk1 : ∀ i, NoKink a1 (pre l1 K1 h0 w0 h1 w1 x i))
    (hnt : NoTies l2 h1 w1 h2 w2 (convFn l1 a1 K1 h0 w0 h1 w1 x))
    (hks : s.NoKinks (flat (poolFn l2 h1 w1 h2 w2 (convFn l1 a1 K1 h0 w0 h1 w1 x))))
    (ℓ : Vec k → ℝ) (g : Vec k) :
    let F := fun (K : V (I4 f1 c0 kh1 kw1)) (z : V (I3 c0 h0 w0)) =>
      s.net.fwd (flat (poolFn l2 h1 w1 h2 w2 (convFn l1 a1 K h0 w0 h1 w1 z)))
    IsGrad ℓ (F K1 x) g →
    ∃ t ws bs gs γ ω,
      n.forward (T3 x) = .ok t ∧ t.act.getLast? = some (vecT (F K1 x)) ∧
      n.backward (vecT g) t = .ok (ws, bs, gs) ∧ gs.getLast? = some (T3 γ) ∧ ws.getLast? = some (.one (T4 ω)) ∧
      IsGrad (ℓ ∘ F K1) x γ ∧ IsGrad (fun K => ℓ (F K x)) K1 ω := by
  intro F hg
  obtain ⟨q1, q2⟩ := real_pool_flat l2 hl2 hf2 (convFn l1 a1 K1 h0 w0 h1 w1 x)
  have h := conv_first_link_gradients n l1 a1 K1 hl1 ha1 hf1
    (consPoolFlat (oh := h2) (ow := w2) l2 h1 w1 (stackChain s))
    (by rw [hn]; simp only [consPoolFlat, LayerChain.layers, stackChain_layers]) hc hlb x hk1
    ⟨q1, fun g => q2 g _, stackChain_real s _ hv⟩ ⟨vjp_pool_flat l2 hl2 _ hnt, stackChain_ok s _ hv hks⟩ ℓ g
    (by simpa only [consPoolFlat, gnet, GNet.fwd, stack_gnet_fwd] using hg)
  -- the function of the chain pool → stack is `F`
  simp only [consPoolFlat, gnet, GNet.fwd, stack_gnet_fwd] at h
  exact h

open Network LayerChain ChainBlock in
/-- **any feedback block without internal skip connections is a link** — its unrolled inner layers (dense,
    convolution, deconvolution, in any order; the repetitions are what the block holds) realise a chain of vector
    functions: as a layer of `Network.forward` / `Network.backward` the block computes the chain's composition, and on
    what its own forward recorded its `Feedback::backward` hands back the chain's reverse-mode gradient — the
    transposed Jacobian of the block when every inner backward is one -/
theorem feedback_block_is_link {a : Idx} {ea : Enc a} {c : Idx} {ec : Enc c} (f : Feedback ℝ) (ch : Chain a ea c ec)
    (ils : List (InnerLayer ℝ)) (hf : IsChainBlock f ils) (x : V a.T) (hr : InnerReal ch ils x) (hpos : ils ≠ [])
    (hok : (gnet ch).Ok x) :
    (layerForward (.feedback f) (ea x) = .ok (blockPre ea f x, ec ((gnet ch).fwd x), blockRecd ea f x) ∧
     ∀ g, layerBackward (.feedback f) (ec g) (ea x) (blockPre ea f x) (.ok (blockRecd ea f x)) =
      .ok (ea ((gnet ch).bwd x g), (blockWGs f ch x g).1, (blockWGs f ch x g).2)) ∧
    IsVJP (gnet ch).fwd x ((gnet ch).bwd x) :=
  ⟨real_chain_block f ch ils hf x hr hpos, GNet.vjp (gnet ch) x hok⟩

open Network LayerChain ChainBlock ChainLinks BlockLinks ConvVJP ConvBridge ConvNet in
/-- instance: **a feedback block of a shape-preserving convolution with two loops** (the unrolled list holds the
    convolution twice) computes `conv ∘ conv` and hands back `convᵀ ∘ convᵀ` of the gradient -/
theorem two_loop_conv_block_is_link {kf kh kw ih iw : ℕ} (f : Feedback ℝ) (l : Conv ℝ) (a : Act) (K : V (I4 kf kf kh kw))
    (hl : IsConv l a K ih iw ih iw) (ha : a ≠ .softmax) (hfl : l.flatten = false)
    (hf : IsChainBlock f [.conv l, .conv l]) (x : V (I3 kf ih iw))
    (hk1 : ∀ i, NoKink a (pre l K ih iw ih iw x i))
    (hk2 : ∀ i, NoKink a (pre l K ih iw ih iw (convFn l a K ih iw ih iw x) i)) :
    let ch := consConv (oh := ih) (ow := iw) l a K ih iw (consConv (oh := ih) (ow := iw) l a K ih iw (Chain.nil (iVol kf ih iw) (eVol kf ih iw)))
    (layerForward (.feedback f) (T3 x) =
        .ok (blockPre (eVol kf ih iw) f x, T3 (convFn l a K ih iw ih iw (convFn l a K ih iw ih iw x)), blockRecd (eVol kf ih iw) f x) ∧
     ∀ g, layerBackward (.feedback f) (T3 g) (T3 x) (blockPre (eVol kf ih iw) f x) (.ok (blockRecd (eVol kf ih iw) f x)) =
      .ok (T3 (convBwdX l a K ih iw ih iw x (convBwdX l a K ih iw ih iw (convFn l a K ih iw ih iw x) g)),
        (blockWGs f ch x g).1, (blockWGs f ch x g).2)) ∧
    IsVJP (fun z => convFn l a K ih iw ih iw (convFn l a K ih iw ih iw z)) x
      (fun g => convBwdX l a K ih iw ih iw x (convBwdX l a K ih iw ih iw (convFn l a K ih iw ih iw x) g)) := by
  intro ch
  have hr : InnerReal ch [.conv l, .conv l] x :=
    innerReal_conv l a K hl ha hfl _ _ x (innerReal_conv l a K hl ha hfl _ _ _ rfl)
  have hok : (gnet ch).Ok x := ⟨vjp_conv l a K hl ha x hk1, vjp_conv l a K hl ha _ hk2, trivial⟩
  exact feedback_block_is_link f ch _ hf x hr (List.cons_ne_nil _ _) hok

open DeconvBridge ConvVJP ConvBridge in
/-- non-vacuity: a 2-filter 2×3 transposed convolution with stride (2,1) and padding (0,1) on a 1×3×4 input -/
example (K : V (I4 2 1 2 3)) :
    IsDeconv (kf := 2) (kc := 1) (kh := 2) (kw := 3)
      { inputs := .triple 1 3 4, outputs := .triple 2 6 4, loops := 1, scale := fun x => 1 / x, kernels := kernelT K,
        stride := (2, 1), padding := (0, 1), act := .sigmoid, dropout := none, flatten := false,
        training := false } .sigmoid K 3 4 6 4 :=
  ⟨rfl, rfl, rfl, rfl, rfl, rfl, by norm_num, by decide⟩

open Network ChainLinks LayerChain ConvVJP ConvBridge ConvNet Flat3 DenseStack in
/-- an instance with two spatial layers: **convolution → convolution → (flatten) → dense stack of any depth**,
    every configuration of both convolutions: the input gradient and the first convolution's kernel gradient
    that the model's folds return are the gradients of the objective -/
theorem conv_conv_mlp_gradients {c0 h0 w0 f1 kh1 kw1 h1 w1 f2 kh2 kw2 h2 w2 k : ℕ} (n : Network ℝ)
    (l1 : Conv ℝ) (a1 : Act) (K1 : V (I4 f1 c0 kh1 kw1)) (hl1 : IsConv l1 a1 K1 h0 w0 h1 w1) (ha1 : a1 ≠ .softmax) (hf1 : l1.flatten = false)
    (l2 : Conv ℝ) (a2 : Act) (K2 : V (I4 f2 f1 kh2 kw2)) (hl2 : IsConv l2 a2 K2 h1 w1 h2 w2) (ha2 : a2 ≠ .softmax) (hf2 : l2.flatten = true)
    (s : Stack (f2 * h2 * w2) k) (hv : s.Valid)
    (hn : n.layers = .conv l1 :: .conv l2 :: s.layers) (hc : n.connect = []) (hlb : n.loopbacks = [])
    (x : V (I3 c0 h0 w0))
    (hk1 : ∀ i, NoKink a1 (pre l1 K1 h0 w0 h1 w1 x i))
    (hk2 : ∀ i, NoKink a2 (pre l2 K2 h1 w1 h2 w2 (convFn l1 a1 K1 h0 w0 h1 w1 x) i))
    (hks : s.NoKinks (flat (convFn l2 a2 K2 h1 w1 h2 w2 (convFn l1 a1 K1 h0 w0 h1 w1 x))))
    (ℓ : Vec k → ℝ) (g : Vec k) :
    let F := fun (K : V (I4 f1 c0 kh1 kw1)) (z : V (I3 c0 h0 w0)) =>
      s.net.fwd (flat (convFn l2 a2 K2 h1 w1 h2 w2 (convFn l1 a1 K h0 w0 h1 w1 z)))
    IsGrad ℓ (F K1 x) g →
    ∃ t ws bs gs γ ω,
      n.forward (T3 x) = .ok t ∧ t.act.getLast? = some (vecT (F K1 x)) ∧
      n.backward (vecT g) t = .ok (ws, bs, gs) ∧ gs.getLast? = some (T3 γ) ∧ ws.getLast? = some (.one (T4 ω)) ∧
      IsGrad (ℓ ∘ F K1) x γ ∧ IsGrad (fun K => ℓ (F K x)) K1 ω := by
  intro F hg
  have h := conv_first_link_gradients n l1 a1 K1 hl1 ha1 hf1
    (consConvFlat (oh := h2) (ow := w2) l2 a2 K2 h1 w1 (stackChain s))
    (by rw [hn]; simp only [consConvFlat, LayerChain.layers, stackChain_layers]) hc hlb x hk1
    (.cons (real_conv_flat l2 a2 K2 hl2 ha2 hf2 _) (stackChain_real s _ hv))
    ⟨vjp_conv_flat l2 a2 K2 hl2 ha2 _ hk2, stackChain_ok s _ hv hks⟩ ℓ g
    (by simpa only [consConvFlat, gnet, GNet.fwd, stack_gnet_fwd] using hg)
  -- the function of the chain convolution → stack is `F`
  simp only [consConvFlat, gnet, GNet.fwd, stack_gnet_fwd] at h
  exact h

open ConvVJP ConvBridge in
/-- non-vacuity: a 2-filter 3×3 convolution with stride 2 and padding 1 on a 2×5×4 input is such a layer -/
example (K : V (I4 2 2 3 3)) :
    IsConv (kf := 2) (kc := 2) (kh := 3) (kw := 3)
      { inputs := .triple 2 5 4, outputs := .triple 2 3 2, loops := 1, scale := fun x => 1 / x, kernels := kernelT K,
        stride := (2, 2), padding := (1, 1), dilation := (1, 1), act := .tanh, dropout := none, flatten := true,
        training := false } .tanh K 5 4 3 2 :=
  ⟨rfl, rfl, rfl, rfl, rfl, by simp [Conv.extent, checkedSub], by norm_num, by decide⟩

/-! non-vacuity: a 2×2 sigmoid layer satisfies every hypothesis -/
example : ∀ i : Fin 2, NoKink .sigmoid (densePre (fun _ : Fin 2 × Fin 2 => (1 : ℝ)) (fun _ => 0) (fun _ => 1) i) := by
  intro i h; rcases h with h | h <;> cases h

end C01
