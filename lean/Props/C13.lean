import Model.Train
import Proofs.Real

/-!
# C13 — early stopping and the returned histories obey their contract

`Network.learn` = flags on, `epochLoop (epochStep …) (stopAfter …)` for at most `epochs` epochs, flags off
(`Model/Train.lean`; `learn_ok`).  The loop is analysed for *every* step function and stop test (so for every network,
data set and validation-loss trajectory) against `runK`, the same epochs run without a test: it stops only if, and as
soon as, the test holds (`epochLoop_spec`).  The test is "more than `tolerance` epochs have run and the last `tolerance`
recorded validation losses strictly increase" — a plateau is not an increase (`shouldStop_*`); every epoch appends one
training-loss entry and, when validation data is given, one validation-loss and one accuracy entry (`epochStep_lengths`).
-/

namespace C13
open Network Scalar

/-- run exactly `k` epochs starting at epoch `e`, without consulting the stop test -/
def runK {S : Type} (step : Nat → S → Except Err S) : Nat → Nat → S → Except Err S
  | 0, _, s => .ok s
  | k+1, e, s => match step e s with
    | .error x => .error x
    | .ok s' => runK step k (e + 1) s'

theorem runK_succ_ok {S : Type} {step : Nat → S → Except Err S} {e : Nat} {s s' : S} (hs : step e s = .ok s') (k : Nat) :
    runK step (k + 1) e s = runK step k (e + 1) s' := by
  simp only [runK, hs]

theorem epochLoop_spec {S : Type} (step : Nat → S → Except Err S) (stop : Nat → S → Except Err Bool) :
    ∀ (fuel e : Nat) (s r : S), epochLoop step stop fuel e s = .ok r →
      ∃ k, k ≤ fuel ∧ runK step k e s = .ok r ∧
        (∀ j, j + 1 < k → ∃ sj, runK step (j + 1) e s = .ok sj ∧ stop (e + j) sj = .ok false) ∧
        (k < fuel → ∃ k', k = k' + 1 ∧ stop (e + k') r = .ok true) := by
  intro fuel
  induction fuel with
  | zero =>
    exact fun e s r h =>
      ⟨0, Nat.le_refl _, h, fun j hj => absurd hj (Nat.not_lt_zero _), fun h => absurd h (Nat.lt_irrefl _)⟩
  | succ fuel ih =>
    intro e s r h
    unfold epochLoop at h
    split at h
    · cases h
    · rename_i s' hs
      split at h
      · cases h
      · rename_i ht   -- the test fires: one epoch
        cases h
        exact ⟨1, Nat.succ_le_succ (Nat.zero_le _), runK_succ_ok hs 0, fun j hj => absurd (Nat.lt_of_succ_lt_succ hj) (Nat.not_lt_zero j),
          fun _ => ⟨0, rfl, ht⟩⟩
      · rename_i ht   -- the test is false: the rest of the loop, one epoch later
        obtain ⟨k, hk, hrun, hmid, hstop⟩ := ih (e + 1) s' r h
        refine ⟨k + 1, Nat.succ_le_succ hk, (runK_succ_ok hs k).trans hrun, ?_, ?_⟩
        · rintro (_ | j) hj
          · exact ⟨s', runK_succ_ok hs 0, ht⟩
          · obtain ⟨sj, a, b⟩ := hmid j (Nat.lt_of_succ_lt_succ hj)
            exact ⟨sj, (runK_succ_ok hs (j + 1)).trans a, by rwa [Nat.add_right_comm] at b⟩
        · intro hlt
          obtain ⟨k', rfl, b⟩ := hstop (Nat.lt_of_succ_lt_succ hlt)
          exact ⟨k' + 1, rfl, by rwa [Nat.add_right_comm] at b⟩

/-- without a stop test that ever fires (no validation data) all epochs run -/
theorem epochLoop_never_stops {S : Type} (step : Nat → S → Except Err S) :
    ∀ (fuel e : Nat) (s : S), epochLoop step (fun _ _ => .ok false) fuel e s = runK step fuel e s := by
  intro fuel
  induction fuel with
  | zero => intro e s; rfl
  | succ fuel ih =>
    intro e s
    unfold epochLoop runK
    cases hs : step e s with
    | error x => rfl
    | ok s' => simp [ih]

theorem no_validation_never_stops {α : Type} [Scalar α] (e : Nat) (r : LearnResult α) :
    stopAfter (none : Option (List (Tensor α) × List (Tensor α) × Nat)) e r = .ok false := rfl

theorem learn_ok {α : Type} [Scalar α] {n : Network α} {inputs targets : List (Tensor α)}
    {validation : Option (List (Tensor α) × List (Tensor α) × Nat)} {batch epochs : Nat} {script : List α}
    {res : LearnResult α} (h : n.learn inputs targets validation batch epochs script = .ok res) :
    batch ≠ 0 ∧ ∃ r, learnLoop inputs targets validation batch script epochs 1
        { net := n.setAllTraining true, trainLoss := [], valLoss := [], valAcc := [] } = .ok r ∧
      res = { r with net := r.net.setAllTraining false } := by
  unfold learn at h
  split at h
  · cases h
  · rename_i hB
    simp only [] at h
    split at h
    · cases h
    · rename_i r hr
      cases h
      exact ⟨hB, r, hr, rfl⟩

variable {α : Type} [Scalar α]

/-- not enough epochs yet: never stop -/
theorem shouldStop_too_early (T e : Nat) (vl : List α) (h : e ≤ T) : shouldStop T e vl = .ok false := by
  simp [shouldStop, Nat.not_lt.mpr h]

/-- tolerance 0 is an arithmetic error (`threshold - 1` underflows), as in the debug build -/
theorem shouldStop_zero (e : Nat) (vl : List α) (h : 0 < e) : shouldStop 0 e vl = .error .arith := by
  simp [shouldStop, h]

theorem shouldStop_eq (T e : Nat) (vl : List α) (h1 : T < e) (h2 : 0 < T) :
    shouldStop T e vl = .ok (increasingNewestFirst (vl.reverse.take T)) := by
  have : T ≠ 0 := Nat.ne_of_gt h2
  simp [shouldStop, h1, this]

/-- every entry of a newest-first window is strictly greater than the one recorded before it -/
def StrictlyRising : List ℝ → Prop
  | [] => True
  | [_] => True
  | newer :: older :: rest => older < newer ∧ StrictlyRising (older :: rest)

/-- over the reals: the newest-first window test is exactly "strictly rising" -/
theorem increasing_iff : ∀ (w : List ℝ), increasingNewestFirst w = true ↔ StrictlyRising w
  | [] => by simp [increasingNewestFirst, StrictlyRising]
  | [_] => by simp [increasingNewestFirst, StrictlyRising]
  | a :: b :: rest => by
    simp only [increasingNewestFirst, Bool.and_eq_true, Bool.not_eq_true', StrictlyRising, increasing_iff (b :: rest),
      ← Bool.not_eq_true, RealScalar.le_iff, not_le]

/-- a plateau (two equal neighbouring losses in the window) never triggers a stop -/
theorem plateau_never_stops (a : ℝ) (rest : List ℝ) : increasingNewestFirst (a :: a :: rest) = false := by
  simp [increasingNewestFirst, Scalar.le, Scalar.beq]

theorem epochStep_lengths (inputs targets : List (Tensor α))
    (validation : Option (List (Tensor α) × List (Tensor α) × Nat)) (batch : Nat) (script : List α)
    (epoch : Nat) (r r' : LearnResult α)
    (h : epochStep inputs targets validation batch script epoch r = .ok r') :
    r'.trainLoss.length = r.trainLoss.length + 1 ∧
    (validation.isSome → r'.valLoss.length = r.valLoss.length + 1 ∧ r'.valAcc.length = r.valAcc.length + 1) ∧
    (validation.isNone → r'.valLoss = r.valLoss ∧ r'.valAcc = r.valAcc) := by
  unfold epochStep at h
  simp only [] at h
  split at h
  · cases h
  · cases validation with
    | none =>
      cases h
      exact ⟨List.length_append, fun hv => absurd hv Bool.false_ne_true, fun _ => ⟨rfl, rfl⟩⟩
    | some v =>
      simp only [] at h
      split at h
      · cases h
      · cases h
        exact ⟨List.length_append, fun _ => ⟨List.length_append, List.length_append⟩, fun hv => absurd hv Bool.false_ne_true⟩

theorem runK_lengths (inputs targets : List (Tensor α))
    (validation : Option (List (Tensor α) × List (Tensor α) × Nat)) (batch : Nat) (script : List α) :
    ∀ (k e : Nat) (r r' : LearnResult α),
      runK (epochStep inputs targets validation batch script) k e r = .ok r' →
      r'.trainLoss.length = r.trainLoss.length + k ∧
      (validation.isSome → r'.valLoss.length = r.valLoss.length + k ∧ r'.valAcc.length = r.valAcc.length + k) ∧
      (validation.isNone → r'.valLoss = r.valLoss ∧ r'.valAcc = r.valAcc) := by
  intro k
  induction k with
  | zero =>
    intro e r r' h
    cases h
    exact ⟨rfl, fun _ => ⟨rfl, rfl⟩, fun _ => ⟨rfl, rfl⟩⟩
  | succ k ih =>
    intro e r r' h
    cases hs : epochStep inputs targets validation batch script e r with
    | error x => simp only [runK, hs] at h; cases h
    | ok r1 =>
      rw [runK_succ_ok hs] at h
      obtain ⟨a1, a2, a3⟩ := epochStep_lengths inputs targets validation batch script e r r1 hs
      obtain ⟨b1, b2, b3⟩ := ih (e + 1) r1 r' h
      have add : ∀ {x y z : Nat}, y = z + 1 → x = y + k → x = z + (k + 1) := fun h1 h2 => by
        rw [h2, h1, Nat.add_assoc, Nat.add_comm 1 k]
      exact ⟨add a1 b1, fun hv => ⟨add (a2 hv).1 (b2 hv).1, add (a2 hv).2 (b2 hv).2⟩,
        fun hv => ⟨(b3 hv).1.trans (a3 hv).1, (b3 hv).2.trans (a3 hv).2⟩⟩

/-- **the contract of `learn`**: it returns one training-loss entry per epoch actually run, exactly as
    many validation-loss and accuracy entries when validation data is given and none otherwise; the
    number of epochs run is at most the budget, the stop test was false after every earlier epoch and —
    if fewer epochs than requested were run — true after the last one -/
theorem learn_contract (n : Network α) (inputs targets : List (Tensor α))
    (validation : Option (List (Tensor α) × List (Tensor α) × Nat)) (batch epochs : Nat) (script : List α)
    (res : LearnResult α) (h : n.learn inputs targets validation batch epochs script = .ok res) :
    ∃ k, k ≤ epochs ∧ res.trainLoss.length = k ∧
      (validation.isSome → res.valLoss.length = k ∧ res.valAcc.length = k) ∧
      (validation.isNone → res.valLoss = [] ∧ res.valAcc = [] ∧ k = epochs) ∧
      (k < epochs → stopAfter validation k { res with net := res.net } = .ok true) := by
  obtain ⟨-, r, hr, rfl⟩ := learn_ok h
  obtain ⟨k, hk, hrun, -, hstop⟩ := epochLoop_spec _ _ epochs 1 _ r hr
  obtain ⟨l1, l2, l3⟩ := runK_lengths inputs targets validation batch script k 1 _ r hrun
  have hstop' : k < epochs → stopAfter validation k r = .ok true := fun hlt => by
    obtain ⟨k', rfl, b⟩ := hstop hlt
    rwa [Nat.add_comm] at b
  refine ⟨k, hk, l1.trans (Nat.zero_add k),
    fun hv => ⟨(l2 hv).1.trans (Nat.zero_add k), (l2 hv).2.trans (Nat.zero_add k)⟩, fun hv => ?_, hstop'⟩
  refine ⟨(l3 hv).1, (l3 hv).2, ?_⟩
  -- without validation data the stop test never fires
  cases validation with
  | some v => cases hv
  | none => exact Nat.le_antisymm hk (Nat.not_lt.mp fun hlt => nomatch hstop' hlt)

/-- **a second run on the network a first run left behind obeys the same contract** — whatever the first run did (stopped
    early or not, with or without validation data, any budget): the network value `learn` returns is all that is carried
    over, and the contract holds for every network -/
theorem second_run_contract (n : Network α) (i1 t1 i2 t2 : List (Tensor α))
    (v1 v2 : Option (List (Tensor α) × List (Tensor α) × Nat)) (b1 e1 b2 e2 : Nat) (s1 s2 : List α) (r1 r2 : LearnResult α)
    (_h1 : n.learn i1 t1 v1 b1 e1 s1 = .ok r1) (h2 : r1.net.learn i2 t2 v2 b2 e2 s2 = .ok r2) :
    ∃ k, k ≤ e2 ∧ r2.trainLoss.length = k ∧
      (v2.isSome → r2.valLoss.length = k ∧ r2.valAcc.length = k) ∧
      (v2.isNone → r2.valLoss = [] ∧ r2.valAcc = [] ∧ k = e2) ∧
      (k < e2 → stopAfter v2 k { r2 with net := r2.net } = .ok true) :=
  learn_contract r1.net i2 t2 v2 b2 e2 s2 r2 h2

/-! non-vacuity: rising, falling and plateau windows -/
example : increasingNewestFirst ([3, 2, 1] : List ℝ) = true := by
  rw [increasing_iff]; simp only [StrictlyRising]; norm_num
example : increasingNewestFirst ([1, 2, 3] : List ℝ) = false := by
  simp [increasingNewestFirst, Scalar.le, Scalar.lt]
example : shouldStop 3 4 ([5, 1, 2, 3] : List ℝ) = .ok true := by
  rw [shouldStop_eq _ _ _ (by omega) (by omega)]
  congr 1
  show increasingNewestFirst ([3, 2, 1] : List ℝ) = true
  rw [increasing_iff]; simp only [StrictlyRising]; norm_num

end C13
