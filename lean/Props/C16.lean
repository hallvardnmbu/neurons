import Proofs.SkipMLP
import Proofs.SkipTyped
import Proofs.SkipReshape

/-!
# C16 — skip connections combine source and target inputs as configured

`Network.addConnect` is `Network::connect`; `Network.skipInput` is the input a layer processes (`Network::skip_input`,
accumulating with `accumulate1`); `invertSkips` is the source ↦ targets table that tells `backward` where
`addSkipGradient` adds what.  The derivative clause ("with additive accumulation every parameter gradient remains the
exact derivative") is proved of the reverse walk as a function of vectors (`additive_skip_gradient_is_derivative`,
`skip_table_sweep_is_derivative`) and on the model's own `Network.forward` / `Network.backward` folds: one connection
around layers of any kind; any table of connections among layers of one shape (the input gradient and every parameter
gradient); layers of different shapes; flat ↔ spatial connections; with perceptron and convolutional instances.
-/

namespace C16
open Network Scalar

variable {α : Type} [Scalar α]

section
set_option linter.unusedSectionVars false  -- the four statements carry `[Scalar α]` and do not use it

/-- a successful `connect(infrom, into)` records exactly that pair and **keeps every earlier
    connection** -/
theorem connect_never_discards (n n' : Network α) (infrom into : Nat) (h : n.addConnect infrom into = .ok n') :
    Assoc.find? n'.connect into = some infrom ∧
    ∀ tgt from_, Assoc.find? n.connect tgt = some from_ → Assoc.find? n'.connect tgt = some from_ := by
  unfold addConnect at h
  -- every branch but the last is an error
  split at h
  · cases h
  split at h
  · cases h
  rename_i hnew
  split at h
  · cases h
  · cases h
  split at h
  · cases h
  · cases h
  split at h
  · cases h
  cases h
  refine ⟨Assoc.find?_insert_same, fun tgt from_ hf => ?_⟩
  have hne : into ≠ tgt := by
    rintro rfl
    rw [hf] at hnew
    exact hnew rfl
  exact (Assoc.find?_insert_other hne).trans hf

/-- a second connection into a target that already has one is **rejected** (not a silent overwrite) -/
theorem connect_rejects_taken_target (n : Network α) (infrom into from0 : Nat)
    (hv : ¬ (infrom > n.layers.length ∨ into ≥ n.layers.length ∨ infrom > into))
    (h : Assoc.find? n.connect into = some from0) : n.addConnect infrom into = .error .reject := by
  simp [addConnect, hv, h]

/-- a connection whose target is free, whose indices are valid (`infrom ≤ into < #layers`) and whose
    two layer inputs hold the same number of elements is **accepted** — in particular any set of
    connections with pairwise distinct targets, in any order -/
theorem connect_accepts (n : Network α) (infrom into : Nat) (lf lt : Layer α) (k : Nat)
    (h1 : infrom ≤ into) (h2 : into < n.layers.length)
    (hfree : Assoc.find? n.connect into = none)
    (hlf : L.get n.layers infrom = .ok lf) (hlt : L.get n.layers into = .ok lt)
    (hcf : inputCount lf true = .ok k) (hct : inputCount lt false = .ok k) :
    n.addConnect infrom into = .ok { n with connect := Assoc.insert n.connect into infrom } := by
  have hv : ¬ (infrom > n.layers.length ∨ into ≥ n.layers.length ∨ infrom > into) := by omega
  simp [addConnect, hv, hfree, hlf, hlt, hcf, hct]

/-- different element counts are refused -/
theorem connect_rejects_count_mismatch (n : Network α) (infrom into : Nat) (lf lt : Layer α) (a b : Nat)
    (h1 : infrom ≤ into) (h2 : into < n.layers.length)
    (hfree : Assoc.find? n.connect into = none)
    (hlf : L.get n.layers infrom = .ok lf) (hlt : L.get n.layers into = .ok lt)
    (hcf : inputCount lf true = .ok a) (hct : inputCount lt false = .ok b) (hab : a ≠ b) :
    n.addConnect infrom into = .error .shape := by
  have hv : ¬ (infrom > n.layers.length ∨ into ≥ n.layers.length ∨ infrom > into) := by omega
  simp [addConnect, hv, hfree, hlf, hlt, hcf, hct, hab]

end

/-- without a skip into layer `i`: its ordinary input -/
theorem skipInput_no_skip (n : Network α) (act : List (Tensor α)) (i : Nat) (x0 : Tensor α)
    (hx : L.get act i = .ok x0) (hn : Assoc.find? n.connect i = none) : n.skipInput act i = .ok x0 := by
  simp [skipInput, hx, hn]

/-- with a skip `a → i` of the same shape: the configured accumulation of the ordinary input with the
    input that was fed to layer `a` -/
theorem skipInput_same_shape (n : Network α) (act : List (Tensor α)) (i a : Nat) (x0 s : Tensor α)
    (hx : L.get act i = .ok x0) (hc : Assoc.find? n.connect i = some a) (hs : L.get act a = .ok s)
    (hshape : s.shape = x0.shape) :
    n.skipInput act i = accumulate1 n.skipaccumulation x0 s := by
  simp [skipInput, hx, hc, hs, hshape]

/-- … also when one is flat and the other spatial: the source is first reshaped (row-major, same element
    count — C14) to the target's shape -/
theorem skipInput_reshaped (n : Network α) (act : List (Tensor α)) (i a : Nat) (x0 s s' : Tensor α)
    (hx : L.get act i = .ok x0) (hc : Assoc.find? n.connect i = some a) (hs : L.get act a = .ok s)
    (hshape : s.shape ≠ x0.shape) (hr : s.reshape x0.shape = .ok s') :
    n.skipInput act i = accumulate1 n.skipaccumulation x0 s' := by
  simp [skipInput, hx, hc, hs, hshape, hr]

theorem accumulate_add (x y : Tensor α) : accumulate1 .add x y = x.add y := rfl
theorem accumulate_sub (x y : Tensor α) : accumulate1 .subtract x y = x.sub y := rfl
theorem accumulate_mul (x y : Tensor α) : accumulate1 .multiply x y = x.mul y := rfl
theorem accumulate_mean (x y : Tensor α) : accumulate1 .mean x y = x.mean [y] := rfl
theorem accumulate_overwrite (x y : Tensor α) : accumulate1 .overwrite x y = .ok y := rfl

/-- every skip contributes to its source: the targets `backward` reads for source `a` from the inverted table are
    exactly the `(target, source)` entries with source `a` -/
theorem invertSkips_complete : ∀ (c : List (Nat × Nat)) (a b : Nat),
    b ∈ ((Assoc.find? (invertSkips c) a).getD []) ↔ (b, a) ∈ c :=
  SkipTable.invert_mem

/-! non-vacuity: the chain 0→1, 1→2 and the shared source 1→2, 1→3 -/
example : invertSkips [(1, 0), (2, 1)] = [(0, [1]), (1, [2])] := by decide
example : invertSkips [(3, 1), (2, 1)] = [(1, [2, 3])] := by decide

/-- what `backward` adds to the gradient `cur` handed on by source layer `idx` for the connection
    `idx → target` (`target ≠ idx`): the gradient with respect to the input the target processed,
    brought to the source's shape -/
theorem skip_source_receives_target_gradient (len idx target k : Nat) (ig cur gt gt' s : Tensor α)
    (processed : List (Tensor α)) (hne : target ≠ idx) (hk : checkedSub len target = .ok k)
    (hg : L.get processed k = .ok gt) (hr : gt.reshape cur.shape = .ok gt') (hs : cur.add gt' = .ok s) :
    addSkipGradient len idx ig processed (.ok cur) target = .ok s := by
  simp [addSkipGradient, hne, hk, hg, hr, hs]

/-- a connection from a layer to itself feeds the layer's own input gradient back once more -/
theorem self_skip_adds_own_gradient (len idx : Nat) (ig cur ig' s : Tensor α) (processed : List (Tensor α))
    (hr : ig.reshape cur.shape = .ok ig') (hs : cur.add ig' = .ok s) :
    addSkipGradient len idx ig processed (.ok cur) idx = .ok s := by
  simp [addSkipGradient, hr, hs]

open VJP in
/-- **with additive accumulation the gradients remain exact derivatives**: for `head`, `mid`, `tail` of
    any depths (layers with correct backward functions at the inputs they receive) and an additive
    skip connection around `mid`, the walk `γ ↦ head.bwd (mid.bwd δ + δ)`, `δ = tail.bwd γ`, is the
    transposed Jacobian of the network; hence for any differentiable objective every coordinate of the
    resulting input gradient is the partial derivative (and, by `C01.parameter_gradient`, likewise for
    the parameters of every layer) -/
theorem additive_skip_gradient_is_derivative {n m k : ℕ} (head : Net n m) (mid : Net m m) (tail : Net m k) (x : Vec n)
    (h1 : head.Ok x) (h2 : mid.Ok (head.fwd x)) (h3 : tail.Ok (mid.fwd (head.fwd x) + head.fwd x))
    (ℓ : Vec k → ℝ) (g : Vec k) (hg : IsGrad ℓ (tail.fwd (mid.fwd (head.fwd x) + head.fwd x)) g) (j : Fin n) :
    HasDerivAt (fun r => ℓ (tail.fwd (mid.fwd (head.fwd (Function.update x j r)) + head.fwd (Function.update x j r))))
      (head.bwd x (mid.bwd (head.fwd x) (tail.bwd (mid.fwd (head.fwd x) + head.fwd x) g) +
        tail.bwd (mid.fwd (head.fwd x) + head.fwd x) g) j) (x j) := by
  have hv := Net.vjp_with_skip head mid tail x h1 h2 h3
  exact (IsGrad.comp_vjp hv hg).partial j

open LayerChain SkipWalk VJP in
/-- **a network with one additive skip connection, any layer kinds** (`head`, then `mid` whose first layer is the
    skip's source, then `tail` whose first layer is the skip's target; every layer a link of the chain theorem:
    dense, convolution, deconvolution, max-pool, dense feedback block): on the model's own folds `Network.forward`
    makes the target process `mid(head x) + head x`, and the last gradient `Network.backward` hands on — computed
    with the source→targets table, the processed-input gradients and the `+=` at the source — is the gradient of
    the objective with respect to the network input -/
theorem additive_skip_network_gradient {a m b d c : Idx} {ea : Enc a} (em : Enc m) {eb : Enc b} {ed : Enc d} {ec : Enc c}
    (head : Chain a ea m em)
    (lm : Layer ℝ) (fm : V m.T → V b.T) (bm : V m.T → V b.T → V m.T) (prem : V m.T → Tensor ℝ) (rcm : V m.T → Recorded ℝ)
    (wgm : V m.T → V b.T → WGrad ℝ × BGrad ℝ) (midr : Chain b eb m em)
    (lt : Layer ℝ) (ft : V m.T → V d.T) (bt : V m.T → V d.T → V m.T) (pret : V m.T → Tensor ℝ) (rct : V m.T → Recorded ℝ)
    (wgt : V m.T → V d.T → WGrad ℝ × BGrad ℝ) (tailr : Chain d ed c ec)
    (n : Network ℝ) (hn : IsSkipNet em head lm fm bm prem rcm wgm midr lt ft bt pret rct wgt tailr n)
    (he : EncAdd em) (x : V a.T)
    (hrh : Real head x) (hrm : Real (midC em lm fm bm prem rcm wgm midr) ((gnet head).fwd x))
    (hrt : Real (tailC em lt ft bt pret rct wgt tailr)
      ((gnet (midC em lm fm bm prem rcm wgm midr)).fwd ((gnet head).fwd x) + (gnet head).fwd x))
    (hh : (gnet head).Ok x) (hm : (gnet (midC em lm fm bm prem rcm wgm midr)).Ok ((gnet head).fwd x))
    (ht : (gnet (tailC em lt ft bt pret rct wgt tailr)).Ok
      ((gnet (midC em lm fm bm prem rcm wgm midr)).fwd ((gnet head).fwd x) + (gnet head).fwd x))
    (ℓ : V c.T → ℝ) (g : V c.T)
    (hg : IsGrad ℓ (skipFn em head lm fm bm prem rcm wgm midr lt ft bt pret rct wgt tailr x) g) :
    ∃ t ws bs gs γ,
      n.forward (ea x) = .ok t ∧
      t.act.getLast? = some (ec (skipFn em head lm fm bm prem rcm wgm midr lt ft bt pret rct wgt tailr x)) ∧
      n.backward (ec g) t = .ok (ws, bs, gs) ∧ gs.getLast? = some (ea γ) ∧
      IsGrad (ℓ ∘ skipFn em head lm fm bm prem rcm wgm midr lt ft bt pret rct wgt tailr) x γ :=
  skip_network_gradient em head lm fm bm prem rcm wgm midr lt ft bt pret rct wgt tailr n hn he x hrh hrm hrt hh hm ht ℓ g hg

open LayerChain SkipWalk VJP ChainLinks DenseStack DenseBridge in
/-- **instance: a perceptron of any depth with an additive skip connection** around any stretch of its layers
    (`s1`, then `Stack.cons a2 W2 b2 r2` which the skip goes around, then `Stack.cons a3 W3 b3 r3`) -/
theorem mlp_with_skip_gradient {n0 m m' d k : ℕ} (n : Network ℝ) (s1 : Stack n0 m)
    (a2 : Act) (W2 : V (Fin m' × Fin m)) (b2 : Vec m') (r2 : Stack m' m)
    (a3 : Act) (W3 : V (Fin d × Fin m)) (b3 : Vec d) (r3 : Stack d k)
    (hl : n.layers = s1.layers ++ (Stack.cons a2 W2 b2 r2).layers ++ (Stack.cons a3 W3 b3 r3).layers)
    (hc : n.connect = [(s1.layers.length + (Stack.cons a2 W2 b2 r2).layers.length, s1.layers.length)])
    (hacc : n.skipaccumulation = .add) (hlb : n.loopbacks = [])
    (hv1 : s1.Valid) (hv2 : (Stack.cons a2 W2 b2 r2).Valid) (hv3 : (Stack.cons a3 W3 b3 r3).Valid) (x : Vec n0)
    (hk1 : s1.NoKinks x) (hk2 : (Stack.cons a2 W2 b2 r2).NoKinks (s1.net.fwd x))
    (hk3 : (Stack.cons a3 W3 b3 r3).NoKinks ((Stack.cons a2 W2 b2 r2).net.fwd (s1.net.fwd x) + s1.net.fwd x))
    (ℓ : Vec k → ℝ) (g : Vec k) :
    let F := fun z : Vec n0 => (Stack.cons a3 W3 b3 r3).net.fwd ((Stack.cons a2 W2 b2 r2).net.fwd (s1.net.fwd z) + s1.net.fwd z)
    IsGrad ℓ (F x) g →
    ∃ t ws bs gs γ,
      n.forward (vecT x) = .ok t ∧ t.act.getLast? = some (vecT (F x)) ∧
      n.backward (vecT g) t = .ok (ws, bs, gs) ∧ gs.getLast? = some (vecT γ) ∧ IsGrad (ℓ ∘ F) x γ := by
  intro F hg
  refine skip_network_gradient' (head := stackChain s1) (midr := stackChain r2) (tailr := stackChain r3)
    ⟨?_, ?_, hacc, hlb⟩ (encAdd_vec m) x (stack_gnet_fwd s1) (stack_gnet_fwd (Stack.cons a2 W2 b2 r2))
    (stack_gnet_fwd (Stack.cons a3 W3 b3 r3))
    (stackChain_real s1 x hv1) (stackChain_real (Stack.cons a2 W2 b2 r2) _ hv2) (stackChain_real (Stack.cons a3 W3 b3 r3) _ hv3)
    (stackChain_ok s1 x hv1 hk1) (stackChain_ok (Stack.cons a2 W2 b2 r2) _ hv2 hk2)
    (stackChain_ok (Stack.cons a3 W3 b3 r3) _ hv3 hk3) ℓ g hg
  · rw [hl, ← stackChain_layers s1, ← stackChain_layers (Stack.cons a2 W2 b2 r2), ← stackChain_layers (Stack.cons a3 W3 b3 r3)]
    rfl
  · rw [hc, ← stackChain_layers s1, ← stackChain_layers (Stack.cons a2 W2 b2 r2)]
    rfl

open LayerChain SkipWalk VJP ChainLinks DenseStack DenseBridge ConvVJP ConvBridge ConvNet Flat3 in
/-- **instance: a residual connection around a convolution** — convolution `l0`, then a shape-preserving
    convolution `l1` that the skip goes around, then a convolution `l2` (flattened) and a dense stack of any depth:
    the target convolution processes `conv₁(y) + y`, and the gradient handed back to the input image is the
    gradient of the objective (every configuration of the three convolutions) -/
theorem residual_conv_network_gradient {c0 h0 w0 f kh0 kw0 h w kh1 kw1 f2 kh2 kw2 h2 w2 k : ℕ} (n : Network ℝ)
    (l0 : Conv ℝ) (a0 : Act) (K0 : V (I4 f c0 kh0 kw0)) (hl0 : IsConv l0 a0 K0 h0 w0 h w) (ha0 : a0 ≠ .softmax) (hf0 : l0.flatten = false)
    (l1 : Conv ℝ) (a1 : Act) (K1 : V (I4 f f kh1 kw1)) (hl1 : IsConv l1 a1 K1 h w h w) (ha1 : a1 ≠ .softmax) (hf1 : l1.flatten = false)
    (l2 : Conv ℝ) (a2 : Act) (K2 : V (I4 f2 f kh2 kw2)) (hl2 : IsConv l2 a2 K2 h w h2 w2) (ha2 : a2 ≠ .softmax) (hf2 : l2.flatten = true)
    (s : Stack (f2 * h2 * w2) k) (hv : s.Valid)
    (hl : n.layers = [.conv l0, .conv l1, .conv l2] ++ s.layers) (hc : n.connect = [(2, 1)])
    (hacc : n.skipaccumulation = .add) (hlb : n.loopbacks = [])
    (x : V (I3 c0 h0 w0)) :
    let y := convFn l0 a0 K0 h0 w0 h w x
    let p := convFn l1 a1 K1 h w h w y + y
    let F := fun z : V (I3 c0 h0 w0) =>
      s.net.fwd (flat (convFn l2 a2 K2 h w h2 w2 (convFn l1 a1 K1 h w h w (convFn l0 a0 K0 h0 w0 h w z) + convFn l0 a0 K0 h0 w0 h w z)))
    (∀ i, NoKink a0 (pre l0 K0 h0 w0 h w x i)) → (∀ i, NoKink a1 (pre l1 K1 h w h w y i)) →
    (∀ i, NoKink a2 (pre l2 K2 h w h2 w2 p i)) → s.NoKinks (flat (convFn l2 a2 K2 h w h2 w2 p)) →
    ∀ (ℓ : Vec k → ℝ) (g : Vec k), IsGrad ℓ (F x) g →
    ∃ t ws bs gs γ,
      n.forward (T3 x) = .ok t ∧ t.act.getLast? = some (vecT (F x)) ∧
      n.backward (vecT g) t = .ok (ws, bs, gs) ∧ gs.getLast? = some (T3 γ) ∧ IsGrad (ℓ ∘ F) x γ := by
  intro y p F hk0 hk1 hk2 hks ℓ g hg
  let mid := consConv (oh := h) (ow := w) l1 a1 K1 h w (Chain.nil (iVol f h w) (eVol f h w))
  let tl := consConvFlat (oh := h2) (ow := w2) l2 a2 K2 h w (stackChain s)
  have hM : ∀ u, (gnet mid).fwd u = convFn l1 a1 K1 h w h w u := fun _ => rfl
  have hT : ∀ u, (gnet tl).fwd u = s.net.fwd (flat (convFn l2 a2 K2 h w h2 w2 u)) := fun _ => stack_gnet_fwd s _
  refine skip_network_gradient' (head := consConv (oh := h) (ow := w) l0 a0 K0 h0 w0 (Chain.nil _ _))
    ⟨?_, ?_, hacc, hlb⟩ (encAdd_vol f h w) x (headF := convFn l0 a0 K0 h0 w0 h w) (fun _ => rfl) hM hT
    (.cons (real_conv l0 a0 K0 hl0 ha0 hf0 x) trivial) (.cons (real_conv l1 a1 K1 hl1 ha1 hf1 y) trivial)
    (.cons (real_conv_flat l2 a2 K2 hl2 ha2 hf2 p) (stackChain_real s _ hv))
    ⟨vjp_conv l0 a0 K0 hl0 ha0 x hk0, trivial⟩ ⟨vjp_conv l1 a1 K1 hl1 ha1 y hk1, trivial⟩
    ⟨vjp_conv_flat l2 a2 K2 hl2 ha2 p hk2, stackChain_ok s _ hv hks⟩ ℓ g hg
  · rw [hl, ← stackChain_layers s]
    rfl
  · exact hc

open SkipDag in
/-- the values of a stack of layers with a skip table `S` (`S i = some s`: layer `i` adds the input of layer
    `s ≤ i` to its own): `U 0 = x`, `U (i+1) = f i (U i + U s)` -/
theorem skip_values_spec {ι : Type} [Fintype ι] (N : SkipDag.Net ι) (x : VJP.V ι) :
    U N 0 x = x ∧ ∀ i, U N (i + 1) x = N.f i (U N i x + match N.S i with
      | some s => if s ≤ i then U N s x else 0
      | none => 0) := by
  refine ⟨by rw [U], fun i => ?_⟩
  rw [U_succ]
  rfl

open SkipDag VJP in
/-- **the reverse sweep with any skip table** (chains of connections, several connections out of one source,
    nested / overlapping connections, a connection from a layer to itself): walking the layers from the last
    to the first, computing for each the gradient `δ i` with respect to the input it processed and handing on
    `δ i + Σ { δ t | t a target of i }`, ends in the transposed Jacobian of the whole function — for every
    depth and every table with sources not after their targets -/
theorem skip_table_sweep_is_derivative {ι : Type} [Fintype ι] (N : SkipDag.Net ι) (tg : Nat → List Nat) (x : V ι) (n : Nat)
    (hok : ∀ i, i < n → IsVJP (N.f i) (P N i x) (N.b i (P N i x)))
    (hS : ∀ i s, N.S i = some s → s ≤ i)
    (htg : ∀ s, (tg s).Nodup ∧ ∀ t, t ∈ tg s ↔ (t < n ∧ N.S t = some s)) :
    IsVJP (U N n) x (fun g => (sweep N tg x n g n).1) :=
  sweep_isVJP N tg x n hok hS htg

open LayerChain SkipWalk SkipNet VJP in
/-- **a network with any table of additive skip connections among layers of one shape, on the model's own
    `Network.forward` / `Network.backward` folds** (`head`, then the stretch `body` with the table `tbl` of
    `(target, source)` pairs relative to the stretch — distinct targets, sources not after their targets —,
    then `tail`; every layer a link of the chain theorem): forward ends in
    `tail (U body.length (head x))`; backward — which reads the sorted targets of every source from the inverted
    table and adds their processed-input gradients — hands back the gradient of the objective -/
theorem any_skip_table_network_gradient {a m c : Idx} {ea : Enc a} {em : Nat → Enc m} {ec : Enc c}
    (head : Chain a ea m (em 0)) (body : List (Link m)) (tbl : List (Nat × Nat)) (tail : Chain m (em body.length) c ec)
    (n : Network ℝ) (hn : IsDagNet head body tbl tail n)
    (hcomp : ∀ t s, Assoc.find? tbl t = some s → Compat (em t) (em s)) (x : V a.T)
    (hrh : Real head x)
    (hrb : ∀ j (lk : Link m), body[j]? = some lk → lk.Real (em j) (em (j + 1)) (SkipDag.P (dagNet body tbl) j ((gnet head).fwd x)))
    (hrt : Real tail (SkipDag.U (dagNet body tbl) body.length ((gnet head).fwd x)))
    (hh : (gnet head).Ok x)
    (hb : ∀ j (lk : Link m), body[j]? = some lk →
      IsVJP lk.f (SkipDag.P (dagNet body tbl) j ((gnet head).fwd x)) (lk.b (SkipDag.P (dagNet body tbl) j ((gnet head).fwd x))))
    (ht : (gnet tail).Ok (SkipDag.U (dagNet body tbl) body.length ((gnet head).fwd x)))
    (ℓ : V c.T → ℝ) (g : V c.T) (hg : IsGrad ℓ (dagFn head body tbl tail x) g) :
    ∃ t ws bs gs γ,
      n.forward (ea x) = .ok t ∧ t.act.getLast? = some (ec (dagFn head body tbl tail x)) ∧
      n.backward (ec g) t = .ok (ws, bs, gs) ∧ gs.getLast? = some (ea γ) ∧
      IsGrad (ℓ ∘ dagFn head body tbl tail) x γ ∧
      ∀ r (lk : Link m), r < body.length → body[body.length - (r + 1)]? = some lk →
        ws[(LayerChain.layers tail).length + r]? =
          some (lk.wg (SkipDag.P (dagNet body tbl) (body.length - (r + 1)) ((gnet head).fwd x))
            (handedTo head body tbl tail x g r)).1 ∧
        bs[(LayerChain.layers tail).length + r]? =
          some (lk.wg (SkipDag.P (dagNet body tbl) (body.length - (r + 1)) ((gnet head).fwd x))
            (handedTo head body tbl tail x g r)).2 :=
  dag_network_gradient head body tbl tail n hn hcomp x hrh hrb hrt hh hb ht ℓ g hg

open LayerChain SkipWalk SkipNet VJP in
/-- **every weight gradient inside a skip table is the exact derivative**: for the layer at position `c'` of the
    stretch with parameters `θ₀` (`lay θ` = its output on the input it processes, `bθ` its parameter-VJP), the
    network output as a function of `θ` has, composed with the objective, the gradient `bθ` of the gradient the
    reverse walk hands to that layer — whatever the table of connections around and across it -/
theorem any_skip_table_parameter_gradient {a m c : Idx} {ea : Enc a} {em : Nat → Enc m} {ec : Enc c} {π : Type} [Fintype π]
    (head : Chain a ea m (em 0)) (body : List (Link m)) (tbl : List (Nat × Nat)) (tail : Chain m (em body.length) c ec)
    (n : Network ℝ) (hn : IsDagNet head body tbl tail n) (x : V a.T)
    (hb : ∀ j (lk : Link m), body[j]? = some lk →
      IsVJP lk.f (SkipDag.P (dagNet body tbl) j ((gnet head).fwd x)) (lk.b (SkipDag.P (dagNet body tbl) j ((gnet head).fwd x))))
    (ht : (gnet tail).Ok (SkipDag.U (dagNet body tbl) body.length ((gnet head).fwd x)))
    (c' : Nat) (hc : c' < body.length) (lk : Link m) (hlk : body[c']? = some lk)
    (lay : V π → V m.T) (bθ : V m.T → V π) (θ₀ : V π)
    (hlay : lay θ₀ = lk.f (SkipDag.P (dagNet body tbl) c' ((gnet head).fwd x))) (hθ : IsVJP lay θ₀ bθ)
    (ℓ : V c.T → ℝ) (g : V c.T) (hg : IsGrad ℓ (dagFn head body tbl tail x) g) :
    dagParamFn head body tbl tail c' lay bθ x θ₀ = dagFn head body tbl tail x ∧
    IsGrad (ℓ ∘ dagParamFn head body tbl tail c' lay bθ x) θ₀
      (bθ (handedTo head body tbl tail x g (body.length - (c' + 1)))) :=
  dag_parameter_gradient head body tbl tail n hn x hb ht c' hc lk hlk lay bθ θ₀ hlay hθ ℓ g hg

open SkipDagP in
/-- what "the network as a function of one layer's parameters" means: the input is fixed, the layer at position
    `c` outputs `lay θ`, every other layer computes what it computed before on what it now receives -/
theorem parametrised_values_spec {α ι : Type} [Fintype α] [Fintype ι] (N : SkipDag.Net ι) (x : VJP.V ι) (c : Nat)
    (lay : VJP.V α → VJP.V ι) (bθ : VJP.V ι → VJP.V α) (θ : VJP.V α) :
    U (paramNet N x c lay bθ) 0 θ = x ∧
    ∀ i, U (paramNet N x c lay bθ) (i + 1) θ = if i = c then lay θ else N.f i (P (paramNet N x c lay bθ) i θ) :=
  param_U_spec N x c lay bθ θ

open LayerChain SkipWalk SkipNet VJP ChainLinks DenseStack DenseBridge in
/-- **instance: a residual perceptron** — a dense stack `s1`, then any number of square dense layers `blocks`
    with ANY table of additive skip connections among them, then a dense stack `s3` -/
theorem resnet_mlp_gradient {n0 m k : ℕ} (n : Network ℝ) (s1 : Stack n0 m)
    (blocks : List (Act × V (Fin m × Fin m) × Vec m)) (tbl : List (Nat × Nat)) (s3 : Stack m k)
    (hl : n.layers = s1.layers ++ (blocks.map denseLink).map (·.l) ++ s3.layers)
    (hc : n.connect = tbl.map (shift s1.layers.length))
    (hacc : n.skipaccumulation = .add) (hlb : n.loopbacks = [])
    (hkeys : (tbl.map Prod.fst).Nodup) (hbd : ∀ e ∈ tbl, e.2 ≤ e.1 ∧ e.1 < blocks.length)
    (hv1 : s1.Valid) (hvb : ∀ q ∈ blocks, q.1 ≠ .softmax) (hm : 0 < m) (hv3 : s3.Valid) (x : Vec n0)
    (ℓ : Vec k → ℝ) (g : Vec k) :
    let N := dagNet (blocks.map denseLink) tbl
    let F := fun z : Vec n0 => s3.net.fwd (SkipDag.U N blocks.length (s1.net.fwd z))
    s1.NoKinks x →
    (∀ (j : Nat) q, blocks[j]? = some q → ∀ i, NoKink q.1 (densePre q.2.1 q.2.2 (SkipDag.P N j (s1.net.fwd x)) i)) →
    s3.NoKinks (SkipDag.U N blocks.length (s1.net.fwd x)) →
    IsGrad ℓ (F x) g →
    ∃ t ws bs gs γ,
      n.forward (vecT x) = .ok t ∧ t.act.getLast? = some (vecT (F x)) ∧
      n.backward (vecT g) t = .ok (ws, bs, gs) ∧ gs.getLast? = some (vecT γ) ∧ IsGrad (ℓ ∘ F) x γ := by
  intro N F hk1 hkb hk3 hg
  obtain ⟨t, ws, bs, gs, γ, _, h1, h2, h3, h4, h5, _⟩ :=
    dag_network_gradients (em := fun _ => eVec m) (head := stackChain s1) (tail := stackChain s3)
      ⟨by rw [hl, stackChain_layers, stackChain_layers], by rw [hc, stackChain_layers], hacc, hlb, hkeys,
        by rw [List.length_map]; exact hbd⟩
      (fun _ _ _ => compat_of_encAdd (encAdd_vec m)) x (stack_gnet_fwd s1) (List.length_map _) (stack_gnet_fwd s3)
      (stackChain_real s1 x hv1)
      (L.forall_getElem?_map fun j q hq => denseLink_real q (hvb q (List.mem_of_getElem? hq)) hm _)
      (stackChain_real s3 _ hv3) (stackChain_ok s1 x hv1 hk1)
      (L.forall_getElem?_map fun j q hq => denseLink_vjp q (hvb q (List.mem_of_getElem? hq)) _ (hkb j q hq))
      (stackChain_ok s3 _ hv3 hk3) ℓ g hg
  exact ⟨t, ws, bs, gs, γ, h1, h2, h3, h4, h5⟩

open LayerChain SkipNet ChainLinks DenseStack in
/-- non-vacuity: a chain of connections, two connections out of one source and a connection from a layer to
    itself are one admissible table (`(target, source)`, relative to a stretch of four layers) -/
example (q : Act × VJP.V (Fin 3 × Fin 3) × VJP.Vec 3) :
    IsDagNet (em := fun _ => eVec 3) (Chain.nil (iVec 3) (eVec 3)) (List.replicate 4 (denseLink q)) [(1, 0), (2, 0), (3, 3)] (Chain.nil (iVec 3) (eVec 3))
      { Network.new (.single 3) with
        layers := List.replicate 4 (.dense (denseLayer q.1 q.2.1 q.2.2)),
        connect := [(1, 0), (2, 0), (3, 3)] } :=
  IsDagNet.of_nil_head rfl rfl rfl rfl (by decide) (by rw [List.length_replicate]; decide)

open LayerChain SkipWalk SkipNet VJP ChainLinks DenseStack DenseBridge ConvVJP ConvBridge ConvNet Flat3 in
/-- **instance: a residual convolutional tower** — a convolution `l0`, then any number of shape-preserving
    convolutions `blocks` with ANY table of additive skip connections among them, then a convolution `l2`
    (flattened) and a dense stack of any depth -/
theorem resnet_conv_gradient {c0 h0 w0 f kh0 kw0 h w kh kw f2 kh2 kw2 h2 w2 k : ℕ} (n : Network ℝ)
    (l0 : Conv ℝ) (a0 : Act) (K0 : V (I4 f c0 kh0 kw0)) (hl0 : IsConv l0 a0 K0 h0 w0 h w) (ha0 : a0 ≠ .softmax) (hf0 : l0.flatten = false)
    (blocks : List (Conv ℝ × Act × V (I4 f f kh kw)))
    (hbl : ∀ q ∈ blocks, IsConv q.1 q.2.1 q.2.2 h w h w ∧ q.2.1 ≠ .softmax ∧ q.1.flatten = false)
    (tbl : List (Nat × Nat))
    (l2 : Conv ℝ) (a2 : Act) (K2 : V (I4 f2 f kh2 kw2)) (hl2 : IsConv l2 a2 K2 h w h2 w2) (ha2 : a2 ≠ .softmax) (hf2 : l2.flatten = true)
    (s : Stack (f2 * h2 * w2) k) (hv : s.Valid)
    (hl : n.layers = [.conv l0] ++ (blocks.map (convLink (h := h) (w := w))).map (·.l) ++ (.conv l2 :: s.layers))
    (hc : n.connect = tbl.map (shift 1))
    (hacc : n.skipaccumulation = .add) (hlb : n.loopbacks = [])
    (hkeys : (tbl.map Prod.fst).Nodup) (hbd : ∀ e ∈ tbl, e.2 ≤ e.1 ∧ e.1 < blocks.length)
    (x : V (I3 c0 h0 w0)) (ℓ : Vec k → ℝ) (g : Vec k) :
    let N := dagNet (blocks.map (convLink (h := h) (w := w))) tbl
    let y := convFn l0 a0 K0 h0 w0 h w x
    let F := fun z : V (I3 c0 h0 w0) =>
      s.net.fwd (flat (convFn l2 a2 K2 h w h2 w2 (SkipDag.U N blocks.length (convFn l0 a0 K0 h0 w0 h w z))))
    (∀ i, NoKink a0 (pre l0 K0 h0 w0 h w x i)) →
    (∀ (j : Nat) q, blocks[j]? = some q → ∀ i, NoKink q.2.1 (pre q.1 q.2.2 h w h w (SkipDag.P N j y) i)) →
    (∀ i, NoKink a2 (pre l2 K2 h w h2 w2 (SkipDag.U N blocks.length y) i)) →
    s.NoKinks (flat (convFn l2 a2 K2 h w h2 w2 (SkipDag.U N blocks.length y))) →
    IsGrad ℓ (F x) g →
    ∃ t ws bs gs γ,
      n.forward (T3 x) = .ok t ∧ t.act.getLast? = some (vecT (F x)) ∧
      n.backward (vecT g) t = .ok (ws, bs, gs) ∧ gs.getLast? = some (T3 γ) ∧ IsGrad (ℓ ∘ F) x γ := by
  intro N y F hk0 hkb hk2 hks hg
  obtain ⟨t, ws, bs, gs, γ, _, h1, h2, h3, h4, h5, _⟩ :=
    dag_network_gradients (em := fun _ => eVol f h w)
      (head := consConv (oh := h) (ow := w) l0 a0 K0 h0 w0 (Chain.nil (iVol f h w) (eVol f h w)))
      (tail := consConvFlat (oh := h2) (ow := w2) l2 a2 K2 h w (stackChain s))
      ⟨by rw [hl, ← stackChain_layers s]; rfl, hc, hacc, hlb, hkeys, by rw [List.length_map]; exact hbd⟩
      (fun _ _ _ => compat_of_encAdd (encAdd_vol f h w)) x (headF := convFn l0 a0 K0 h0 w0 h w) (fun _ => rfl)
      (List.length_map _) (tailF := fun u => s.net.fwd (flat (convFn l2 a2 K2 h w h2 w2 u))) (fun _ => stack_gnet_fwd s _)
      (.cons (real_conv l0 a0 K0 hl0 ha0 hf0 x) trivial)
      (L.forall_getElem?_map fun j q hq =>
        have hb := hbl q (List.mem_of_getElem? hq)
        convLink_real q hb.1 hb.2.1 hb.2.2 _)
      (.cons (real_conv_flat l2 a2 K2 hl2 ha2 hf2 _) (stackChain_real s _ hv))
      ⟨vjp_conv l0 a0 K0 hl0 ha0 x hk0, trivial⟩
      (L.forall_getElem?_map fun j q hq =>
        have hb := hbl q (List.mem_of_getElem? hq)
        convLink_vjp q hb.1 hb.2.1 _ (hkb j q hq))
      ⟨vjp_conv_flat l2 a2 K2 hl2 ha2 _ hk2, stackChain_ok s _ hv hks⟩ ℓ g hg
  exact ⟨t, ws, bs, gs, γ, h1, h2, h3, h4, h5⟩

open LayerChain SkipWalk SkipNet VJP ChainLinks DenseStack DenseBridge in
/-- **instance: every weight matrix of a residual perceptron** — in the setting of `resnet_mlp_gradient`, the
    weight gradient `Network.backward` records for the block at position `c'` (walk position
    `s3.layers.length + (blocks.length - (c'+1))`, the walk goes from the last layer to the first) is, entry by
    entry, the partial derivative of the objective with respect to that entry of the block's weight matrix —
    for ANY table of additive skip connections among the blocks -/
theorem resnet_mlp_weight_gradient {n0 m k : ℕ} (n : Network ℝ) (s1 : Stack n0 m)
    (blocks : List (Act × V (Fin m × Fin m) × Vec m)) (tbl : List (Nat × Nat)) (s3 : Stack m k)
    (hl : n.layers = s1.layers ++ (blocks.map denseLink).map (·.l) ++ s3.layers)
    (hc : n.connect = tbl.map (shift s1.layers.length))
    (hacc : n.skipaccumulation = .add) (hlb : n.loopbacks = [])
    (hkeys : (tbl.map Prod.fst).Nodup) (hbd : ∀ e ∈ tbl, e.2 ≤ e.1 ∧ e.1 < blocks.length)
    (hv1 : s1.Valid) (hvb : ∀ q ∈ blocks, q.1 ≠ .softmax) (hm : 0 < m) (hv3 : s3.Valid) (x : Vec n0)
    (ℓ : Vec k → ℝ) (g : Vec k)
    (c' : Nat) (a : Act) (W : V (Fin m × Fin m)) (b : Vec m) (hq : blocks[c']? = some (a, W, b)) :
    let N := dagNet (blocks.map denseLink) tbl
    let y := s1.net.fwd x
    let F := fun z : Vec n0 => s3.net.fwd (SkipDag.U N blocks.length (s1.net.fwd z))
    let lay := fun W' : V (Fin m × Fin m) => denseFn (Act.f a) W' b (SkipDag.P N c' y)
    let bθ := fun δ : Vec m => weightGrad (delta (Act.df a) (densePre W b (SkipDag.P N c' y)) δ) (SkipDag.P N c' y)
    let FW := fun W' : V (Fin m × Fin m) => s3.net.fwd (SkipDagP.U (SkipDagP.paramNet N y c' lay bθ) blocks.length W')
    s1.NoKinks x →
    (∀ (j : Nat) q, blocks[j]? = some q → ∀ i, NoKink q.1 (densePre q.2.1 q.2.2 (SkipDag.P N j y) i)) →
    s3.NoKinks (SkipDag.U N blocks.length y) →
    IsGrad ℓ (F x) g →
    ∃ t ws bs gs ω,
      n.forward (vecT x) = .ok t ∧ n.backward (vecT g) t = .ok (ws, bs, gs) ∧
      ws[s3.layers.length + (blocks.length - (c' + 1))]? = some (.one (matT ω)) ∧
      FW W = F x ∧
      ∀ p, HasDerivAt (fun r => ℓ (FW (Function.update W p r))) (ω p) (W p) := by
  intro N y F lay bθ FW hk1 hkb hk3 hg
  obtain ⟨t, ws, bs, gs, _, δ, h1, _, h3, _, _, hw⟩ :=
    dag_network_gradients (em := fun _ => eVec m) (head := stackChain s1) (tail := stackChain s3)
      ⟨by rw [hl, stackChain_layers, stackChain_layers], by rw [hc, stackChain_layers], hacc, hlb, hkeys,
        by rw [List.length_map]; exact hbd⟩
      (fun _ _ _ => compat_of_encAdd (encAdd_vec m)) x (stack_gnet_fwd s1) (List.length_map _) (stack_gnet_fwd s3)
      (stackChain_real s1 x hv1)
      (L.forall_getElem?_map fun j q hq => denseLink_real q (hvb q (List.mem_of_getElem? hq)) hm _)
      (stackChain_real s3 _ hv3) (stackChain_ok s1 x hv1 hk1)
      (L.forall_getElem?_map fun j q hq => denseLink_vjp q (hvb q (List.mem_of_getElem? hq)) _ (hkb j q hq))
      (stackChain_ok s3 _ hv3 hk3) ℓ g hg
  obtain ⟨hwc, _, hpar⟩ := hw c' (denseLink (a, W, b)) (by rw [List.getElem?_map, hq]; rfl)
  rw [stackChain_layers] at hwc
  obtain ⟨hval, hgrad⟩ := hpar lay bθ W rfl
    (DenseStack.vjp_dense_weights a W b (hvb _ (List.mem_of_getElem? hq)) (SkipDag.P N c' y) (hkb c' _ hq))
  exact ⟨t, ws, bs, gs, _, h1, h3, hwc, hval, fun p => hgrad.partial p⟩

open LayerChain SkipWalk SkipNet SkipPad SkipMLP VJP ChainLinks DenseStack DenseBridge in
/-- **instance: perceptrons of ARBITRARY widths with any table of additive skip connections** — the layers `ds`
    (widths ≤ `W`, consecutive layers fitting) are the whole network; the table `tbl` of `(target, source)` pairs has
    distinct targets, sources not after targets, and connects positions of equal width.  Vectors of width `k` live
    in slot `k` of the universal index type `Σ k, Fin k` (zero elsewhere); `U` is the value recursion of
    `skip_values_spec` with layer `j` acting as "read slot `k₁`, apply the dense layer, write slot `k₂`".
    `Network.forward` on `x₀` ends in the network function's value, and the last gradient `Network.backward` hands on
    is the gradient of the objective with respect to `x₀`. -/
theorem mlp_any_widths_skips_gradient {W : ℕ} (n : Network ℝ) (ds : List (DLayer W)) (tbl : List (Nat × Nat))
    (hl : n.layers = ds.map (fun d => .dense (denseLayer d.a d.Wt d.b)))
    (hc : n.connect = tbl) (hacc : n.skipaccumulation = .add) (hlb : n.loopbacks = [])
    (hkeys : (tbl.map Prod.fst).Nodup) (hbd : ∀ e ∈ tbl, e.2 ≤ e.1 ∧ e.1 < ds.length)
    (hw : ∀ e ∈ tbl, slotAt ds e.1 = slotAt ds e.2)
    (hfit : Fits ds) (hv : ∀ d ∈ ds, d.Valid)
    (x₀ : Vec (slotAt ds 0).val) (ℓ : Vec (slotAt ds ds.length).val → ℝ) (g₀ : Vec (slotAt ds ds.length).val) :
    let N := dagNet (ds.map dlink) tbl
    let F := fun z : Vec (slotAt ds 0).val => proj (TW W) (slotAt ds ds.length) (SkipDag.U N ds.length (emb (TW W) (slotAt ds 0) z))
    (∀ (j : Nat) d, ds[j]? = some d → ∀ i, NoKink d.a (densePre d.Wt d.b (proj (TW W) d.k₁ (SkipDag.P N j (emb (TW W) (slotAt ds 0) x₀))) i)) →
    IsGrad ℓ (F x₀) g₀ →
    ∃ t ws bs gs γ,
      n.forward (vecT x₀) = .ok t ∧ t.act.getLast? = some (vecT (F x₀)) ∧
      n.backward (vecT g₀) t = .ok (ws, bs, gs) ∧ gs.getLast? = some (vecT γ) ∧ IsGrad (ℓ ∘ F) x₀ γ := by
  intro N F hk hg
  exact padded_network_gradient (TW W) (fun _ => encW) (slotAt ds) n (ds.map dlink) tbl ds.length (List.length_map _)
    (by rw [hl, List.map_map]; rfl) hc hacc hlb hkeys hbd (compat_W ds tbl hw) x₀ ℓ g₀
    (dlink_real ds hfit hv _) (dlink_vjp ds hv _ hk) hg

open SkipNet SkipPad SkipMLP VJP DenseStack DenseBridge in
/-- what layer `j` of such a perceptron does to the padded vectors: read slot `k₁`, apply the dense layer, write
    slot `k₂` (every other slot zero) -/
theorem mlp_padded_layer_step {W : ℕ} (ds : List (DLayer W)) (tbl : List (Nat × Nat)) (j : Nat) (d : DLayer W)
    (hd : ds[j]? = some d) (x : V (Σ k, TW W k)) :
    SkipDag.U (dagNet (ds.map dlink) tbl) (j + 1) x =
      emb (TW W) d.k₂ (denseFn (Act.f d.a) d.Wt d.b (proj (TW W) d.k₁ (SkipDag.P (dagNet (ds.map dlink) tbl) j x))) :=
  U_step (ds.map dlink) tbl x j (dlink d) (by rw [List.getElem?_map, hd]; rfl)

open SkipMLP DenseStack in
/-- non-vacuity: widths 3 → 2 → 2 → 1 with a connection from position 1 to position 2 (both of width 2) -/
example :
    let d0 : DLayer 3 := ⟨3, 2, .tanh, fun _ => 1, fun _ => 0⟩
    let d1 : DLayer 3 := ⟨2, 2, .sigmoid, fun _ => 1, fun _ => 0⟩
    let d2 : DLayer 3 := ⟨2, 1, .linear, fun _ => 1, fun _ => 0⟩
    Fits [d0, d1, d2] ∧ (∀ d ∈ [d0, d1, d2], d.Valid) ∧
    (∀ e ∈ [((2 : Nat), (1 : Nat))], slotAt [d0, d1, d2] e.1 = slotAt [d0, d1, d2] e.2) ∧
    (∀ e ∈ [((2 : Nat), (1 : Nat))], e.2 ≤ e.1 ∧ e.1 < [d0, d1, d2].length) := by
  intro d0 d1 d2
  refine ⟨?_, ?_, ?_, ?_⟩
  · intro j d d' h1 h2
    rcases j with _ | _ | _ | j
    · cases h1
      cases h2
      rfl
    · cases h1
      cases h2
      rfl
    · cases h2
    · cases h1
  · intro d hd
    rw [List.mem_cons, List.mem_cons, List.mem_singleton] at hd
    rcases hd with rfl | rfl | rfl <;> exact ⟨by decide, by decide, by decide⟩
  · exact fun e he => List.mem_singleton.mp he ▸ rfl
  · exact fun e he => List.mem_singleton.mp he ▸ by decide

open LayerChain SkipWalk SkipNet SkipPad SkipTyped VJP in
/-- **the general form: any sequence of typed layers with any table of additive skip connections between positions of
    one shape** — the layers `ds` are given with the shapes ("slots" `k₁ → k₂`, any finite family `T` of index types
    with encodings `enc`) they map between and the vector functions they realise (every layer kind that is a link of
    C01's chain theorem is such a typed layer: dense, convolution, deconvolution, max-pool, with or without
    flattening); the table connects positions of equal slot whose encoding adds (`EncAdd`).  On the model's own
    `Network.forward` / `Network.backward` folds the network computes the value recursion `U` (layer `j`: read slot
    `k₁`, apply its function, write slot `k₂` — `SkipTyped.padded_layer_step`) and hands back the gradient of the
    objective. -/
theorem typed_layers_any_skips_network_gradient {K : Type} [Fintype K] [DecidableEq K] [Inhabited K] {T : K → Type}
    [∀ k, Fintype (T k)] (enc : (k : K) → Enc ⟨T k⟩) (n : Network ℝ) (ds : List (TLink T)) (tbl : List (Nat × Nat))
    (hl : n.layers = ds.map (·.l))
    (hc : n.connect = tbl) (hacc : n.skipaccumulation = .add) (hlb : n.loopbacks = [])
    (hkeys : (tbl.map Prod.fst).Nodup) (hbd : ∀ e ∈ tbl, e.2 ≤ e.1 ∧ e.1 < ds.length)
    (hw : ∀ e ∈ tbl, SkipTyped.slotAt ds e.1 = SkipTyped.slotAt ds e.2 ∧ EncAdd (enc (SkipTyped.slotAt ds e.1)))
    (hfit : SkipTyped.Fits ds)
    (x₀ : V (T (SkipTyped.slotAt ds 0))) (ℓ : V (T (SkipTyped.slotAt ds ds.length)) → ℝ) (g₀ : V (T (SkipTyped.slotAt ds ds.length))) :
    let N := dagNet (ds.map tlink) tbl
    let F := fun z : V (T (SkipTyped.slotAt ds 0)) =>
      proj T (SkipTyped.slotAt ds ds.length) (SkipDag.U N ds.length (emb T (SkipTyped.slotAt ds 0) z))
    (∀ (j : Nat) d, ds[j]? = some d → d.Real enc (proj T d.k₁ (SkipDag.P N j (emb T (SkipTyped.slotAt ds 0) x₀)))) →
    (∀ (j : Nat) d, ds[j]? = some d → IsVJP d.f (proj T d.k₁ (SkipDag.P N j (emb T (SkipTyped.slotAt ds 0) x₀)))
      (d.b (proj T d.k₁ (SkipDag.P N j (emb T (SkipTyped.slotAt ds 0) x₀))))) →
    IsGrad ℓ (F x₀) g₀ →
    ∃ t ws bs gs γ,
      n.forward (enc (SkipTyped.slotAt ds 0) x₀) = .ok t ∧ t.act.getLast? = some (enc (SkipTyped.slotAt ds ds.length) (F x₀)) ∧
      n.backward (enc (SkipTyped.slotAt ds ds.length) g₀) t = .ok (ws, bs, gs) ∧
      gs.getLast? = some (enc (SkipTyped.slotAt ds 0) γ) ∧ IsGrad (ℓ ∘ F) x₀ γ := by
  refine SkipTypedE.typed_skip_enc_network_gradient (fun _ => enc) n ds tbl hl hc hacc hlb hkeys hbd (fun e he => ?_) hfit x₀ ℓ g₀
  obtain ⟨hs, ha⟩ := hw e he
  -- the two slots are equal: name the source's slot `k` so that the transport disappears
  generalize SkipTyped.slotAt ds e.2 = k at hs ⊢
  subst hs
  exact ⟨rfl, compat_of_encAdd ha⟩

open LayerChain SkipWalk SkipNet SkipReshape VJP ChainLinks DenseStack DenseBridge ConvVJP ConvBridge ConvNet Flat3 in
/-- **a spatial source into any flat targets, among any other connections**: a shape-preserving convolution whose output
    is flattened, then any number of square dense layers, then a dense stack; ANY table of additive connections whose
    targets are dense layers — their sources may be the convolution's `c × h × w` input (position 0: `Network::skip_input`
    reshapes it to the flat target, `backward` reshapes the target's gradient back to `c × h × w`) or flat positions
    (chains, shared sources, nested, self connections).  The network computes the specified function of the image and
    hands back the gradient of the objective with respect to the image. -/
theorem spatial_source_into_flat_stack_gradient {c h w kh kw k : ℕ} (n : Network ℝ)
    (l : Conv ℝ) (a0 : Act) (K : V (I4 c c kh kw)) (hl0 : IsConv l a0 K h w h w) (ha0 : a0 ≠ .softmax) (hf0 : l.flatten = true)
    (blocks : List (Act × V (Fin (c * h * w) × Fin (c * h * w)) × Vec (c * h * w))) (tbl : List (Nat × Nat))
    (hvb : ∀ q ∈ blocks, q.1 ≠ .softmax) (hw : 0 < w)
    (s : Stack (c * h * w) k) (hv : s.Valid)
    (hl : n.layers = .conv l :: (blocks.map denseLink).map (·.l) ++ s.layers) (hc : n.connect = tbl)
    (hacc : n.skipaccumulation = .add) (hlb : n.loopbacks = [])
    (hkeys : (tbl.map Prod.fst).Nodup) (hbd : ∀ e ∈ tbl, e.2 ≤ e.1 ∧ 1 ≤ e.1 ∧ e.1 < blocks.length + 1)
    (x : V (I3 c h w)) (ℓ : Vec k → ℝ) (g : Vec k) :
    let N := dagNet (convFlatLink (h := h) (w := w) (l, a0, K) :: blocks.map denseLink) tbl
    let F := fun z : V (I3 c h w) => s.net.fwd (SkipDag.U N (blocks.length + 1) (flat z))
    (∀ i, NoKink a0 (pre l K h w h w x i)) →
    (∀ (j : Nat) q, blocks[j]? = some q → ∀ i, NoKink q.1 (densePre q.2.1 q.2.2 (SkipDag.P N (j + 1) (flat x)) i)) →
    s.NoKinks (SkipDag.U N (blocks.length + 1) (flat x)) →
    IsGrad ℓ (F x) g →
    ∃ t ws bs gs γ,
      n.forward (T3 x) = .ok t ∧ t.act.getLast? = some (vecT (F x)) ∧
      n.backward (vecT g) t = .ok (ws, bs, gs) ∧ gs.getLast? = some (T3 γ) ∧ IsGrad (ℓ ∘ F) x γ := by
  intro N F hk0 hkb hks hg
  obtain ⟨hcp, _, _, hhp, _⟩ := hl0.pos
  have hm : 0 < c * h * w := Nat.mul_pos (Nat.mul_pos hcp hhp) hw
  -- no connection leads into the convolution
  have hS0 : N.S 0 = none := Option.eq_none_iff_forall_ne_some.mpr fun s' hs =>
    absurd (hbd (0, s') (Assoc.mem_of_find?_eq_some hs)).2.1 (Nat.not_succ_le_zero 0)
  have hcomp : ∀ t s', Assoc.find? tbl t = some s' → Compat (emFS c h w t) (emFS c h w s')
    | 0, _, hts => nomatch hS0.symm.trans hts
    | t' + 1, s', _ => compat_emFS hcp hhp t' s'
  have hP0 : SkipDag.P N 0 (flat x) = flat x := by rw [SkipDag.P_of_none _ _ _ hS0, SkipDag.U]
  -- over the flat index type the network is the stretch `convolution :: blocks` followed by the stack
  obtain ⟨t, ws, bs, gs, γ, _, h1, h2, h3, h4, h5, _⟩ :=
    dag_network_gradients (em := emFS c h w) (head := Chain.nil _ _)
      (body := convFlatLink (h := h) (w := w) (l, a0, K) :: blocks.map denseLink) (tail := stackChain s)
      (IsDagNet.of_nil_head (by rw [hl, ← stackChain_layers s]; rfl) hc hacc hlb hkeys
        fun e he => ⟨(hbd e he).1, by rw [List.length_cons, List.length_map]; exact (hbd e he).2.2⟩)
      hcomp (flat x) (headF := fun u => u) (fun _ => rfl) (L := blocks.length + 1) (by rw [List.length_cons, List.length_map])
      (stack_gnet_fwd s)
      trivial
      (L.forall_getElem?_cons (convFlatLink_real (l, a0, K) hl0 ha0 hf0 _)
        (L.forall_getElem?_map fun j q hq => denseLink_real q (hvb q (List.mem_of_getElem? hq)) hm _))
      (stackChain_real s _ hv) trivial
      (L.forall_getElem?_cons
        (by rw [hP0]; exact convFlatLink_vjp (l, a0, K) hl0 ha0 (flat x) (by simpa only [unflat_flat] using hk0))
        (L.forall_getElem?_map fun j q hq => denseLink_vjp q (hvb q (List.mem_of_getElem? hq)) _ (hkb j q hq)))
      (stackChain_ok s _ hv hks) ℓ g hg
  rw [emFS_zero_flat] at h1
  have h6 := IsGrad.comp_vjp (flat_isVJP (c := c) (h := h) (w := w) x) h5
  exact ⟨t, ws, bs, gs, unflat γ, h1, h2, h3, h4, h6⟩

/-- non-vacuity of the table hypotheses of `spatial_source_into_flat_stack_gradient`: with three dense layers after the
    convolution, the image feeding the first and the third dense layer while the second feeds itself is an admissible
    table (`(target, source)`; distinct targets, sources not after their targets, every target a dense layer) -/
example : (([(1, 0), (3, 0), (2, 2)] : List (Nat × Nat)).map Prod.fst).Nodup ∧
    ∀ e ∈ ([(1, 0), (3, 0), (2, 2)] : List (Nat × Nat)), e.2 ≤ e.1 ∧ 1 ≤ e.1 ∧ e.1 < 3 + 1 := by
  refine ⟨by decide, ?_⟩
  intro e he
  simp only [List.mem_cons, List.not_mem_nil, or_false] at he
  rcases he with rfl | rfl | rfl <;> decide

open LayerChain SkipWalk SkipNet SkipReshape VJP ChainLinks DenseStack DenseBridge ConvVJP ConvBridge ConvNet Flat3 in
/-- **a connection from a spatial position into a flat one** ("also when one is flat and the other spatial with the
    same element count"): a shape-preserving convolution `l` on `c × h × w` whose output is flattened, a square dense
    layer `(a, W, b)` that is the target of a connection from the convolution's input (the network input, spatial),
    then a dense stack.  `Network::skip_input` reshapes the `c × h × w` source to the flat target's shape and adds;
    `backward` reshapes the target's processed-input gradient back to `c × h × w` and adds it to what came back through
    the convolution.  The dense layer processes `flat (conv x) + flat x`, and the gradient handed back to the image is
    the gradient of the objective. -/
theorem spatial_source_into_flat_target_gradient {c h w kh kw k : ℕ} (n : Network ℝ)
    (l : Conv ℝ) (a0 : Act) (K : V (I4 c c kh kw)) (hl0 : IsConv l a0 K h w h w) (ha0 : a0 ≠ .softmax) (hf0 : l.flatten = true)
    (a : Act) (W : V (Fin (c * h * w) × Fin (c * h * w))) (b : Vec (c * h * w)) (ha : a ≠ .softmax) (hw : 0 < w)
    (s : Stack (c * h * w) k) (hv : s.Valid)
    (hl : n.layers = [.conv l, .dense (denseLayer a W b)] ++ s.layers) (hc : n.connect = [(1, 0)])
    (hacc : n.skipaccumulation = .add) (hlb : n.loopbacks = [])
    (x : V (I3 c h w)) (ℓ : Vec k → ℝ) (g : Vec k) :
    let F := fun z : V (I3 c h w) => s.net.fwd (denseFn (Act.f a) W b (flat (convFn l a0 K h w h w z) + flat z))
    (∀ i, NoKink a0 (pre l K h w h w x i)) →
    (∀ i, NoKink a (densePre W b (flat (convFn l a0 K h w h w x) + flat x) i)) →
    s.NoKinks (denseFn (Act.f a) W b (flat (convFn l a0 K h w h w x) + flat x)) →
    IsGrad ℓ (F x) g →
    ∃ t ws bs gs γ,
      n.forward (T3 x) = .ok t ∧ t.act.getLast? = some (vecT (F x)) ∧
      n.backward (vecT g) t = .ok (ws, bs, gs) ∧ gs.getLast? = some (T3 γ) ∧ IsGrad (ℓ ∘ F) x γ := by
  intro F hk0 hk1 hks hg
  -- the values of the two-layer stretch with the table `[(1, 0)]`
  let N := dagNet (convFlatLink (h := h) (w := w) (l, a0, K) :: List.map denseLink [(a, W, b)]) [(1, 0)]
  have hU1 : ∀ z : V (I3 c h w), SkipDag.U N 1 (flat z) = flat (convFn l a0 K h w h w z) := fun z => by
    rw [SkipDag.U_succ, SkipDag.P_of_none N 0 _ rfl, SkipDag.U]
    show flat (convFn l a0 K h w h w (unflat (flat z))) = _
    rw [unflat_flat]
  have hP1 : ∀ z : V (I3 c h w), SkipDag.P N 1 (flat z) = flat (convFn l a0 K h w h w z) + flat z := fun z => by
    rw [SkipDag.P_of_some N 1 0 _ rfl (Nat.zero_le _), hU1, SkipDag.U]
  have hU2 : ∀ z : V (I3 c h w), SkipDag.U N 2 (flat z) = denseFn (Act.f a) W b (flat (convFn l a0 K h w h w z) + flat z) :=
    fun z => by rw [SkipDag.U_succ, hP1]; rfl
  have hF : ∀ z, s.net.fwd (SkipDag.U N 2 (flat z)) = F z := fun z => congrArg s.net.fwd (hU2 z)
  have hg' : IsGrad ℓ (s.net.fwd (SkipDag.U N 2 (flat x))) g := (hF x).symm ▸ hg
  obtain ⟨t, ws, bs, gs, γ, h1, h2, h3, h4, h5⟩ :=
    spatial_source_into_flat_stack_gradient n l a0 K hl0 ha0 hf0 [(a, W, b)] [(1, 0)]
      (fun q hq => List.mem_singleton.mp hq ▸ ha) hw s hv hl hc hacc hlb (by decide)
      (fun e he => List.mem_singleton.mp he ▸ ⟨Nat.zero_le _, Nat.le_refl _, Nat.lt_succ_self _⟩) x ℓ g hk0
      (L.forall_getElem?_cons (fun i => (hP1 x).symm ▸ hk1 i) fun _ _ hq => nomatch hq)
      ((hU2 x).symm ▸ hks) hg'
  exact ⟨t, ws, bs, gs, γ, h1, h2.trans (congrArg (fun v => some (vecT v)) (hF x)), h3, h4, funext hF ▸ h5⟩

open LayerChain SkipWalk SkipNet SkipPad SkipTyped SkipTypedE VJP in
/-- **typed layers, any table, position-indexed encodings**: `typed_layers_any_skips_network_gradient` with the tensor
    form of a slot chosen per position (`enc j k`): two positions of one slot can be connected as soon as the encodings
    at the two ends are compatible — equal encodings that add, or a flat and a `c × h × w` form of the same vectors
    (`SkipReshape.compat_flat_vol`, `compat_vol_flat`: the library's reshape between them is the row-major re-indexing).
    So flat↔spatial connections are covered for every typed layer sequence, in any number and combination. -/
theorem typed_layers_positional_encodings_gradient {K : Type} [Fintype K] [DecidableEq K] [Inhabited K] {T : K → Type} [∀ k, Fintype (T k)]
    (enc : Nat → (k : K) → Enc ⟨T k⟩) (n : Network ℝ) (ds : List (TLink T)) (tbl : List (Nat × Nat))
    (hl : n.layers = ds.map (·.l))
    (hc : n.connect = tbl) (hacc : n.skipaccumulation = .add) (hlb : n.loopbacks = [])
    (hkeys : (tbl.map Prod.fst).Nodup) (hbd : ∀ e ∈ tbl, e.2 ≤ e.1 ∧ e.1 < ds.length)
    (hw : ∀ e ∈ tbl, ∃ hs : slotAt ds e.2 = slotAt ds e.1, Compat (enc e.1 (slotAt ds e.1)) (hs ▸ enc e.2 (slotAt ds e.2)))
    (hfit : Fits ds)
    (x₀ : V (T (slotAt ds 0))) (ℓ : V (T (slotAt ds ds.length)) → ℝ) (g₀ : V (T (slotAt ds ds.length))) :
    let N := dagNet (ds.map tlink) tbl
    let F := fun z : V (T (slotAt ds 0)) => proj T (slotAt ds ds.length) (SkipDag.U N ds.length (emb T (slotAt ds 0) z))
    (∀ (j : Nat) d, ds[j]? = some d → RealAt enc j d (proj T d.k₁ (SkipDag.P N j (emb T (slotAt ds 0) x₀)))) →
    (∀ (j : Nat) d, ds[j]? = some d → IsVJP d.f (proj T d.k₁ (SkipDag.P N j (emb T (slotAt ds 0) x₀)))
      (d.b (proj T d.k₁ (SkipDag.P N j (emb T (slotAt ds 0) x₀))))) →
    IsGrad ℓ (F x₀) g₀ →
    ∃ t ws bs gs γ,
      n.forward (enc 0 (slotAt ds 0) x₀) = .ok t ∧ t.act.getLast? = some (enc ds.length (slotAt ds ds.length) (F x₀)) ∧
      n.backward (enc ds.length (slotAt ds ds.length) g₀) t = .ok (ws, bs, gs) ∧ gs.getLast? = some (enc 0 (slotAt ds 0) γ) ∧
      IsGrad (ℓ ∘ F) x₀ γ :=
  typed_skip_enc_network_gradient enc n ds tbl hl hc hacc hlb hkeys hbd hw hfit x₀ ℓ g₀

open LayerChain SkipWalk SkipNet SkipPad SkipMLP VJP ChainLinks DenseStack DenseBridge in
/-- **every weight matrix of a perceptron of arbitrary widths with any table of additive skip connections**: the weight
    gradient `Network.backward` records for layer `c'` (walk position `ds.length - (c'+1)`: the walk goes from the last
    layer to the first) is, entry by entry, the partial derivative of the objective with respect to that entry of the
    layer's weight matrix.  `FW W'` is the network output with layer `c'` using the weights `W'` (its processed input
    does not depend on its own weights; every other layer computes what it computed before on what it now receives —
    `parametrised_values_spec`). -/
theorem mlp_any_widths_weight_gradient {W : ℕ} (n : Network ℝ) (ds : List (DLayer W)) (tbl : List (Nat × Nat))
    (hl : n.layers = ds.map (fun d => .dense (denseLayer d.a d.Wt d.b)))
    (hc : n.connect = tbl) (hacc : n.skipaccumulation = .add) (hlb : n.loopbacks = [])
    (hkeys : (tbl.map Prod.fst).Nodup) (hbd : ∀ e ∈ tbl, e.2 ≤ e.1 ∧ e.1 < ds.length)
    (hw : ∀ e ∈ tbl, slotAt ds e.1 = slotAt ds e.2)
    (hfit : Fits ds) (hv : ∀ d ∈ ds, d.Valid)
    (x₀ : Vec (slotAt ds 0).val) (ℓ : V (Σ k, TW W k) → ℝ) (g : V (Σ k, TW W k))
    (c' : Nat) (d : DLayer W) (hd : ds[c']? = some d) :
    let N := dagNet (ds.map dlink) tbl
    let x := emb (TW W) (slotAt ds 0) x₀
    let p := proj (TW W) d.k₁ (SkipDag.P N c' x)
    let lay := fun W' : V (Fin d.k₂.val × Fin d.k₁.val) => emb (TW W) d.k₂ (denseFn (Act.f d.a) W' d.b p)
    let bθ := fun δ : V (Σ k, TW W k) => weightGrad (delta (Act.df d.a) (densePre d.Wt d.b p) (proj (TW W) d.k₂ δ)) p
    let FW := fun W' => SkipDagP.U (SkipDagP.paramNet N x c' lay bθ) ds.length W'
    (∀ (j : Nat) d', ds[j]? = some d' → ∀ i, NoKink d'.a (densePre d'.Wt d'.b (proj (TW W) d'.k₁ (SkipDag.P N j x)) i)) →
    IsGrad ℓ (SkipDag.U N ds.length x) g →
    ∃ t ws bs gs ω,
      n.forward (vecT x₀) = .ok t ∧ n.backward (emW ds ds.length g) t = .ok (ws, bs, gs) ∧
      ws[ds.length - (c' + 1)]? = some (.one (matT ω)) ∧
      FW d.Wt = SkipDag.U N ds.length x ∧
      ∀ q, HasDerivAt (fun r => ℓ (FW (Function.update d.Wt q r))) (ω q) (d.Wt q) := by
  intro N x p lay bθ FW hk hg
  have hlen : (ds.map dlink).length = ds.length := List.length_map _
  obtain ⟨t, ws, bs, gs, _, δ, h1, _, h3, _, _, hw⟩ :=
    dag_network_gradients (em := emW ds) (head := Chain.nil _ _) (body := ds.map dlink) (tail := Chain.nil _ _)
      (IsDagNet.of_nil_head (by rw [hl, List.map_map]; exact (List.append_nil _).symm) hc hacc hlb hkeys (hlen ▸ hbd))
      (compat_W ds tbl hw) x (headF := fun u => u) (fun _ => rfl) hlen (tailF := fun u => u) (fun _ => rfl)
      trivial (dlink_real ds hfit hv _) trivial trivial (dlink_vjp ds hv _ hk) trivial ℓ g hg
  obtain ⟨hwc, _, hpar⟩ := hw c' (dlink d) (by rw [List.getElem?_map, hd]; rfl)
  rw [LayerChain.layers, List.length_nil, Nat.zero_add] at hwc
  obtain ⟨hval, hgrad⟩ := hpar lay bθ d.Wt rfl
    (IsVJP.comp (DenseStack.vjp_dense_weights d.a d.Wt d.b (hv d (List.mem_of_getElem? hd)).1 p (hk c' d hd))
      (isVJP_emb (TW W) d.k₂ _))
  have hin : emW ds 0 x = vecT x₀ := by simp only [emW, encAt, encW, x, proj_emb]
  rw [hin] at h1
  rw [hlen] at h3
  exact ⟨t, ws, bs, gs, _, h1, h3, hwc, hval, fun q => hgrad.partial q⟩

end C16
