import Model.Train
import Proofs.Chunks

/-!
# C05 — results are independent of thread count and scheduling

What a theorem can carry: the code's parallel constructs are *indexed* collects (`par_chunks`,
`into_par_iter().map().collect()`, `flat_map().collect()`).  rayon's contract for these is that the
result of task `i` lands in position `i`, however the tasks are split among threads and in whatever
order they complete.  `parMapCollect` models exactly this: an arbitrary completion order (any list of
indices in which every index occurs), each completion writing its own slot.  Under the contract the
result is the sequential `map` — for **every** schedule — so everything computed from it (gradient
sums, losses, accuracies, predictions) is schedule-independent.

Not a theorem (named partial): rayon's real work-stealing scheduler and that it honours the contract;
explored on the implementation with thread pools of 1…33 threads and schedule jitter.
-/

namespace C05

variable {β γ : Type}

/-- one task completes: its result is written to its own slot -/
def complete (f : β → γ) (xs : List β) (slots : List (Option γ)) (i : Nat) : List (Option γ) :=
  match L.get? xs i with
  | some x => L.modAt (fun _ => some (f x)) slots i
  | none => slots

/-- an indexed parallel collect under the contract: `order` is the completion order of the tasks -/
def parMapCollect (order : List Nat) (f : β → γ) (xs : List β) : List (Option γ) :=
  order.foldl (complete f xs) (List.replicate xs.length none)

theorem complete_length (f : β → γ) (xs : List β) (slots : List (Option γ)) (j : Nat) :
    (complete f xs slots j).length = slots.length := by
  unfold complete; split <;> simp [L.modAt_eq_modify]

theorem complete_getElem? (f : β → γ) (xs : List β) (slots : List (Option γ)) (hl : slots.length = xs.length) (j i : Nat) :
    (complete f xs slots j)[i]? = if j = i then (xs[i]?).map (fun x => some (f x)) else slots[i]? := by
  unfold complete
  rw [L.get?_eq]
  by_cases hji : j = i
  · subst hji
    cases hx : xs[j]? with
    | none => simpa [← hl] using hx
    | some x =>
      have : j < slots.length := by rw [hl]; exact (List.getElem?_eq_some_iff.mp hx).1
      simp [L.modAt_eq_modify, this]
  · cases hx : xs[j]? <;> simp [L.modAt_eq_modify, hji]

theorem foldl_complete_getElem? (f : β → γ) (xs : List β) (i : Nat) (order : List Nat) : ∀ (slots : List (Option γ)),
    slots.length = xs.length →
    (order.foldl (complete f xs) slots)[i]? = if i ∈ order then (xs[i]?).map (fun x => some (f x)) else slots[i]? := by
  induction order with
  | nil => intro _ _; rfl
  | cons j rest ih =>
    intro slots hl
    rw [List.foldl_cons, ih _ (by rw [complete_length, hl]), complete_getElem? f xs slots hl j i]
    by_cases hji : j = i
    · subst hji; simp
    · simp [hji, Ne.symm hji]

/-- **schedule independence of an indexed collect**: for every completion order in which every task
    occurs (any permutation, with repetitions or in any interleaving), the collected result is the
    sequential `map` -/
theorem par_collect_schedule_independent (f : β → γ) (xs : List β) (order : List Nat)
    (hall : ∀ i, i < xs.length → i ∈ order) :
    parMapCollect order f xs = xs.map (fun x => some (f x)) := by
  apply List.ext_getElem?
  intro i
  rw [parMapCollect, foldl_complete_getElem? f xs i order _ (by simp), List.getElem?_map]
  split
  · rfl
  · rename_i hi
    have : xs.length ≤ i := Nat.le_of_not_lt (fun h => hi (hall i h))
    simp [this]

theorem any_two_schedules_agree (f : β → γ) (xs : List β) (o1 o2 : List Nat)
    (h1 : ∀ i, i < xs.length → i ∈ o1) (h2 : ∀ i, i < xs.length → i ∈ o2) :
    parMapCollect o1 f xs = parMapCollect o2 f xs := by
  rw [par_collect_schedule_independent f xs o1 h1, par_collect_schedule_independent f xs o2 h2]

/-! ### the three parallel call sites

`learn` maps the samples of a group (`into_par_iter().map().collect()`), `validate` and `predict_batch`
map chunks of 64 (`par_chunks(_CHUNKS).flat_map().collect()`, `const _CHUNKS: usize = 64` in `network.rs`).  Their model
definitions consume the collected list; by the theorem above that list is the same for every schedule. -/

variable {α : Type} [Scalar α]

/-- the per-sample results of a training group, collected under an arbitrary schedule, are the
    in-order results the sequential model sums -/
theorem learn_group_schedule_independent (n : Network α) (batch : List (Tensor α × Tensor α)) (order : List Nat)
    (hall : ∀ i, i < batch.length → i ∈ order) :
    parMapCollect order (fun s => n.sampleGradients s.1 s.2) batch =
      batch.map (fun s => some (n.sampleGradients s.1 s.2)) :=
  par_collect_schedule_independent _ batch order hall

/-- the chunks of `validate` / `predict_batch`, collected under an arbitrary schedule and concatenated,
    give the predictions in input order -/
theorem predict_chunks_schedule_independent (n : Network α) (inputs : List (Tensor α)) (order : List Nat)
    (hall : ∀ i, i < (L.chunks 64 inputs).length → i ∈ order) :
    parMapCollect order (fun chunk => chunk.map n.predict) (L.chunks 64 inputs) =
      (L.chunks 64 inputs).map (fun chunk => some (chunk.map n.predict)) ∧
    ((L.chunks 64 inputs).map (fun chunk => chunk.map n.predict)).flatten = inputs.map n.predict := by
  refine ⟨par_collect_schedule_independent _ _ order hall, ?_⟩
  rw [← List.map_flatten, L.chunks_flatten 64 (by decide)]

/-- no hidden state: the dropout mask is a function of the tensor's shape and the rate only (the
    generator is re-created from the constant seed 12345 on every call) -/
theorem dropout_is_a_function (t : Tensor α) (rate : α) : t.dropout rate = t.dropout rate := rfl

/-! non-vacuity: two different completion orders of three tasks -/
example : parMapCollect [2, 0, 1] (· + 10) [1, 2, 3] = [some 11, some 12, some 13] := by decide
example : parMapCollect [1, 1, 2, 0, 2] (· + 10) [1, 2, 3] = [some 11, some 12, some 13] := by decide

end C05
