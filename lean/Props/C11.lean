import Model.Network
import Proofs.Feedback

/-!
# C11 — a feedback block computes the repeated, optionally skip-combined, layer sequence

About `Feedback.create` (`Feedback::create`), `Feedback.forwardAll` (`Feedback::forward`) and
`Network.addDense` (the flatten flag).  The specification `FeedbackSpec.blockSpec` (Proofs/Feedback.lean)
is written without positions or tables:

* `applySeq ls x` — the composition of the layer sequence;
* `laterReps` — every repetition after the first receives the previous repetition's output, combined
  with the block's input (`repInput`) when input skips are on;
* the last output is combined with the outputs of all earlier repetitions when output skips are on
  (and `loops ≥ 2`, otherwise there is nothing to combine with);
* flattened when the flag is set — which `Network.addDense` does when a dense layer follows.

`block_computes_spec` proves that the position-indexed, table-driven unrolled forward pass of a
created block equals this specification **for every layer list, every `loops ≥ 1`, all four flag
combinations, all five accumulations and all inputs, errors included**.
-/

namespace C11
open Network Scalar FeedbackSpec

variable {α : Type} [Scalar α]

/-! ### the connection table `create` builds -/

theorem create_rejects_zero_loops (ls : List (InnerLayer α)) (i o : Bool) (acc : Accumulation) :
    Feedback.create ls 0 i o acc = .error .reject := by simp [Feedback.create]

theorem create_rejects_shape_mismatch (ls : List (InnerLayer α)) (loops : Nat) (i o : Bool) (acc : Accumulation)
    (first last : InnerLayer α) (hl : loops ≠ 0) (h1 : ls.head? = some first) (h2 : ls.getLast? = some last)
    (hne : first.inputs ≠ last.outputs) : Feedback.create ls loops i o acc = .error .shape := by
  simp [Feedback.create, hl, h1, h2, hne]

theorem find?_wiring (srcs : List Nat) (out : Nat) (inskips outskips : Bool) (k : Nat) :
    Assoc.find? ((if inskips then srcs.map (fun t => (t, [0])) else []) ++
        (if outskips ∧ srcs ≠ [] then [(out, srcs)] else [])) k =
      if inskips ∧ k ∈ srcs then some [0] else if outskips ∧ srcs ≠ [] ∧ k = out then some srcs else none := by
  rw [Assoc.find?_append]
  have h1 : Assoc.find? (if inskips then srcs.map (fun t => (t, [0])) else []) k =
      if inskips ∧ k ∈ srcs then some [0] else none := by
    cases inskips <;> simp [Assoc.find?, Assoc.find?_map_const]
  have h2 : Assoc.find? (if outskips ∧ srcs ≠ [] then [(out, srcs)] else []) k =
      if outskips ∧ srcs ≠ [] ∧ k = out then some srcs else none := by
    by_cases ho : outskips = true ∧ srcs ≠ []
    · simp [Assoc.find?, ho, eq_comm]
    · rw [if_neg ho, if_neg (fun e => ho ⟨e.1, e.2.1⟩)]; rfl
  rw [h1, h2]
  split <;> rfl

/-- the block `create` returns is wired as the specification assumes: the unrolled layer list is
    `loops` copies; with input skips position `i·len` (`1 ≤ i < loops`) has the single source `0` (the
    block input); with output skips and `loops ≥ 2` position `loops·len` has the sources
    `len, 2·len, …, (loops−1)·len` (the outputs of the earlier repetitions); no other position has an
    entry -/
theorem create_wired (ls : List (InnerLayer α)) (loops : Nat) (inskips outskips : Bool) (acc : Accumulation)
    (f : Feedback α) (h : Feedback.create ls loops inskips outskips acc = .ok f) :
    Wired f ls loops inskips outskips ∧ f.accumulation = acc ∧ f.flatten = false ∧ 1 ≤ loops ∧ ls ≠ [] := by
  obtain ⟨hloops, hne, hacc, hfl, hlayers, -, hconn⟩ := create_ok h
  have hlen : 0 < ls.length := List.length_pos_iff.mpr hne
  generalize hs : (List.range loops).tail.map (fun i => i * ls.length) = srcs at hconn
  have hmem : ∀ {k}, k ∈ srcs ↔ ∃ i, (1 ≤ i ∧ i < 1 + (loops - 1)) ∧ i * ls.length = k := by
    intro k
    simp only [← hs, List.tail_range, List.mem_map, List.mem_range'_1]
  have key := fun k => find?_wiring srcs (loops * ls.length) inskips outskips k
  simp only [← hconn] at key
  -- the positions with an entry are multiples `i·len`, `1 ≤ i ≤ loops`: compare them by their factors
  have hmul : ∀ {a b : Nat}, a * ls.length < b * ls.length → a < b := fun h => Nat.lt_of_mul_lt_mul_right h
  have hpos : ∀ {i}, 1 ≤ i → 0 < i * ls.length := fun h => Nat.mul_pos h hlen
  have hl1 : 1 ≤ loops := Nat.pos_of_ne_zero hloops
  refine ⟨⟨hlayers, ?_, ?_, ?_, ?_⟩, hacc, hfl, hl1, hne⟩
  · rw [key, if_neg, if_neg]
    · exact fun ⟨_, _, e⟩ => absurd e (Nat.ne_of_lt (hpos hl1))
    · exact fun ⟨_, hk⟩ => by obtain ⟨i, ⟨h1, _⟩, e⟩ := hmem.mp hk; exact absurd e (Nat.ne_of_gt (hpos h1))
  · intro i hi1 hi2
    rw [key]
    by_cases hin : inskips = true
    · rw [if_pos ⟨hin, hmem.mpr ⟨i, ⟨hi1, by omega⟩, rfl⟩⟩, if_pos hin]
    · rw [if_neg (fun h => hin h.1), if_neg hin, if_neg]
      exact fun ⟨_, _, e⟩ => absurd (Nat.eq_of_mul_eq_mul_right hlen e) (Nat.ne_of_lt hi2)
  · intro i q hi h1 h2
    rw [key, if_neg, if_neg]
    · rintro ⟨_, _, rfl⟩
      exact absurd (hmul h2) (Nat.not_lt.mpr hi)
    · intro ⟨_, hk⟩
      obtain ⟨j, _, rfl⟩ := hmem.mp hk
      have a := hmul h1
      have b := hmul h2
      omega
  · have hsrcs : srcs ≠ [] ↔ 2 ≤ loops := by
      simp only [← hs, List.tail_range, ne_eq, List.map_eq_nil_iff, List.range'_eq_nil_iff]
      omega
    rw [key, if_neg]
    · simp only [hsrcs, and_true]
      rw [← hs, List.tail_range]
    · intro ⟨_, hk⟩
      obtain ⟨j, ⟨_, hj⟩, e⟩ := hmem.mp hk
      exact absurd (Nat.eq_of_mul_eq_mul_right hlen e) (by omega)

/-- non-vacuity: a two-layer block with three loops and both skips is created, and wired as described:
    positions 2 and 4 receive the block input (position 0), the output position 6 the outputs at 2 and 4 -/
example (l : InnerLayer α) (acc : Accumulation) (h : l.inputs = l.outputs) :
    (Feedback.create [l, l] 3 true true acc).map (·.connect) = .ok [(2, [0]), (4, [0]), (6, [2, 4])] := by
  simp [Feedback.create, h, Except.map, List.range, List.range.loop]

/-! ### the forward pass is the specification -/

/-- **C11.** for every layer list, every `loops`, both skip flags, every accumulation and every input:
    the block `create` returns (with the flatten flag as the network sets it) outputs exactly
    `blockSpec` — the `loops`-fold repeated application of the layer sequence with the configured
    combinations — and fails exactly when the specification fails, with the same error -/
theorem block_computes_spec (ls : List (InnerLayer α)) (loops : Nat) (inskips outskips : Bool) (acc : Accumulation)
    (f : Feedback α) (flatten : Bool) (x : Tensor α)
    (h : Feedback.create ls loops inskips outskips acc = .ok f) :
    blockOutput { f with flatten := flatten } x = blockSpec ls loops inskips outskips acc flatten x := by
  obtain ⟨hw, hacc, _, hl, hne⟩ := create_wired ls loops inskips outskips acc f h
  cases ls with
  | nil => exact absurd rfl hne
  | cons l0 ls' =>
    obtain ⟨k, rfl⟩ : ∃ k, loops = k + 1 := ⟨loops - 1, by omega⟩
    have hw' : Wired { f with flatten := flatten } (l0 :: ls') (k + 1) inskips outskips :=
      ⟨hw.layers, hw.c0, hw.cin, hw.cfree, hw.cout⟩
    rw [wired_output _ l0 ls' k inskips outskips x hw']
    simp only [hacc]

/-! ### reading the specification -/

/-- the composition of an empty sequence is the identity; of `l :: ls` it is `ls` after `l` (the
    layer refuses an input of the wrong shape) -/
theorem applySeq_nil (x : Tensor α) : applySeq ([] : List (InnerLayer α)) x = .ok x := rfl

theorem applySeq_cons (l : InnerLayer α) (ls : List (InnerLayer α)) (x : Tensor α) :
    applySeq (l :: ls) x =
      if l.inputs ≠ x.shape then .error .shape else
      match l.forward x with
      | .error e => .error e
      | .ok (_, post, _) => applySeq ls post := by
  simp only [applySeq, seqTrace]
  by_cases hs : l.inputs = x.shape
  · simp only [ne_eq, hs, not_true_eq_false, ↓reduceIte]
    cases l.forward x with
    | error e => rfl
    | ok r =>
      obtain ⟨pre, post, m⟩ := r
      simp only []
      cases hq : seqTrace ls post with
      | error e => rfl
      | ok r2 =>
        obtain ⟨us, as, ms⟩ := r2
        simp only [List.getLast?_cons, Option.getD_some]
  · simp only [ne_eq, hs, not_false_eq_true, ↓reduceIte]

/-- a repetition after the first: with input skips it receives the accumulation of the previous
    output with the block input, otherwise the previous output -/
theorem repInput_on (acc : Accumulation) (x y : Tensor α) : repInput acc true x y = accumulateMany acc y [x] := rfl
theorem repInput_off (acc : Accumulation) (x y : Tensor α) : repInput acc false x y = .ok y := rfl

/-- the five accumulations of `x` with sources `ys` -/
theorem accumulate_add (x : Tensor α) (ys : List (Tensor α)) :
    accumulateMany .add x ys = ys.foldl (fun r y => match r with | .ok t => t.add y | .error e => .error e) (.ok x) := rfl
theorem accumulate_subtract (x : Tensor α) (ys : List (Tensor α)) :
    accumulateMany .subtract x ys = ys.foldl (fun r y => match r with | .ok t => t.sub y | .error e => .error e) (.ok x) := rfl
theorem accumulate_multiply (x : Tensor α) (ys : List (Tensor α)) :
    accumulateMany .multiply x ys = ys.foldl (fun r y => match r with | .ok t => t.mul y | .error e => .error e) (.ok x) := rfl
theorem accumulate_mean (x : Tensor α) (ys : List (Tensor α)) : accumulateMany .mean x ys = x.mean ys := rfl
theorem accumulate_overwrite (x y : Tensor α) (ys : List (Tensor α)) :
    accumulateMany .overwrite x (ys ++ [y]) = .ok y := by simp [accumulateMany]

def iterate (ls : List (InnerLayer α)) : Nat → Tensor α → Except Err (Tensor α)
  | 0, x => .ok x
  | n + 1, x => match applySeq ls x with
    | .error e => .error e
    | .ok y => iterate ls n y

theorem laterReps_noskip (ls : List (InnerLayer α)) (acc : Accumulation) (x : Tensor α) (k : Nat) (y : Tensor α) :
    (match laterReps ls acc false x k y with
     | .error e => .error e
     | .ok ys => .ok ((y :: ys).getLast?.getD y)) = iterate ls k y := by
  induction k generalizing y with
  | zero => simp [laterReps, iterate]
  | succ k ih =>
    simp only [laterReps, repInput_off, iterate]
    cases applySeq ls y with
    | error e => rfl
    | ok y' =>
      simp only []
      rw [← ih y']
      cases laterReps ls acc false x k y' with
      | error e => rfl
      | ok ys => simp [List.getLast?_cons]

/-- **without skips a block with `L` loops is the `L`-fold repeated application of its layer
    sequence** (whatever the accumulation) -/
theorem noskip_block_is_iterate (ls : List (InnerLayer α)) (loops : Nat) (hl : 1 ≤ loops) (acc : Accumulation) (x : Tensor α) :
    blockSpec ls loops false false acc false x = iterate ls loops x := by
  obtain ⟨k, rfl⟩ : ∃ k, loops = k + 1 := ⟨loops - 1, by omega⟩
  simp only [blockSpec, iterate, Nat.add_sub_cancel]
  cases applySeq ls x with
  | error e => rfl
  | ok y1 =>
    simp only []
    rw [← laterReps_noskip ls acc x k y1]
    cases laterReps ls acc false x k y1 with
    | error e => rfl
    | ok ys => simp

/-- one loop: the block is its layer sequence, whatever the flags (nothing to combine with) -/
theorem one_loop_block (ls : List (InnerLayer α)) (i o : Bool) (acc : Accumulation) (x : Tensor α) :
    blockSpec ls 1 i o acc false x = applySeq ls x := by
  simp only [blockSpec]
  cases applySeq ls x with
  | error e => rfl
  | ok y1 => simp [laterReps]

/-! ### flattening: set exactly when a dense layer follows a spatial block -/

theorem addDense_after_spatial_block (n : Network α) (front : List (Layer α)) (l : Feedback α) (c h w : Nat)
    (hn : n.layers = front ++ [.feedback l]) (ho : l.outputs = .triple c h w)
    (outputs : Nat) (act : Act) (bias : Bool) (dropout : Option α) (wt : Tensor α) (bt : Option (Tensor α)) :
    (n.addDense outputs act bias dropout wt bt).map (·.layers) =
      .ok (front ++ [.feedback { l with flatten := true },
        .dense { inputs := .single (c * h * w), outputs := .single outputs, loops := 1, scale := fun x => 1 / x,
                 weights := wt, bias := if bias then bt else none, act := act, dropout := dropout, training := false }]) := by
  simp only [addDense, hn, List.getLast?_concat, List.dropLast_concat, ho, Except.map]

theorem addDense_after_flat_block (n : Network α) (front : List (Layer α)) (l : Feedback α) (k : Nat)
    (hn : n.layers = front ++ [.feedback l]) (ho : l.outputs = .single k)
    (outputs : Nat) (act : Act) (bias : Bool) (dropout : Option α) (wt : Tensor α) (bt : Option (Tensor α)) :
    (n.addDense outputs act bias dropout wt bt).map (·.layers) =
      .ok (front ++ [.feedback l,
        .dense { inputs := .single k, outputs := .single outputs, loops := 1, scale := fun x => 1 / x,
                 weights := wt, bias := if bias then bt else none, act := act, dropout := dropout, training := false }]) := by
  simp only [addDense, hn, List.getLast?_concat, List.dropLast_concat, ho, Except.map]

/-- what the network records as the block's output is `blockOutput` -/
theorem layerForward_block (f : Feedback α) (x : Tensor α) :
    (layerForward (.feedback f) x).map (·.2.1) = blockOutput f x := by
  simp only [layerForward, Feedback.forward, blockOutput, Feedback.forwardAll]
  cases List.foldl f.forwardStep (Except.ok ([], [x], [])) ((List.range f.layers.length).zip f.layers) with
  | error e => rfl
  | ok r =>
    obtain ⟨un, act, mx⟩ := r
    simp only []
    cases act.getLast? with
    | none => rfl
    | some last0 =>
      -- `forwardAll` fails on an empty list of pre-activations, so `forward` finds a first one
      cases hu : un.head? with
      | none => rfl
      | some u0 =>
        simp only []
        cases f.skipped act.dropLast f.layers.length last0 with
        | error e => rfl
        | ok last =>
          simp only []
          cases (if f.flatten = true then last.flatten else Except.ok last) with
          | error e => rfl
          | ok out => simp only [hu, List.getLast?_concat, Except.map]

end C11
