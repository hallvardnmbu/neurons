import Model.Optimizer
import Proofs.Real
import Proofs.OptimizerLemmas
import Proofs.MeanG

/-!
# C03 — optimizer steps follow the documented update rules for every history

* the per-element rules of the model are the documented equations (at `ℝ`);
* every partial operation stays inside its domain for every history (Adam's bias correction and
  second moment, RMSprop's centred variance — an invariant proved by induction over an arbitrary
  gradient history);
* state kept for one `(layer, filter, bias)` slot never influences another slot: the result for a
  slot after any interleaved history equals that of its own sub-history (for every scalar type).

Not a theorem (float rounding): the NaN/overflow behaviour at `f32`; searched on the implementation.
Rank-independence: the model applies one scalar rule through the rank-specific zips `nzip1/2/3`
(`nzip_elementwise_rank1/2/3`: at every rank, every position of the result is the scalar rule applied
to the operands' entries at that position); that the three Rust copies agree with the model is the
correspondence + the rank oracle of the harness.
-/

namespace C03
open Optimizer OptKind Scalar RealScalar

/-! ### `powi` (compiler-rt's square-and-multiply) is the power function -/

theorem powiAux_eq (fuel : ℕ) : ∀ (a r : ℝ) (b : ℕ), b ≤ fuel → Scalar.powiAux fuel a r b = r * a ^ b := by
  induction fuel with
  | zero => intro a r b hb; obtain rfl := Nat.le_zero.mp hb; simp [Scalar.powiAux]
  | succ fuel ih =>
    intro a r b hb
    -- `a ^ b = (a²)^(b/2) · a^(b%2)`; the loop multiplies `a^(b%2)` into `r` and continues with `a²`, `b/2`
    have hp : a ^ b = a ^ (b % 2) * (a * a) ^ (b / 2) := by
      rw [← pow_two, ← pow_mul, ← pow_add, Nat.mod_add_div]
    have hr : (if b % 2 = 1 then r * a else r) = r * a ^ (b % 2) := by
      rcases Nat.mod_two_eq_zero_or_one b with h | h <;> simp [h]
    unfold Scalar.powiAux
    simp only [hr]
    split
    · rename_i h0; rw [hp, h0, pow_zero, mul_one]
    · rw [ih _ _ _ (by omega), hp, mul_assoc]

theorem powi_eq_pow (a : ℝ) (n : ℕ) : Scalar.powi a n = a ^ n := by
  unfold Scalar.powi
  rw [powiAux_eq (n + 1) a 1 n (Nat.le_succ n), one_mul]

theorem powf_two (g : ℝ) : Scalar.powf g Scalar.two = g ^ 2 := by
  rw [powf_eq, two_eq]; exact Real.rpow_two g

/-- SGD: `g ← g + λw` (if weight decay), `w ← w − γ g` -/
theorem sgd_rule (lr : ℝ) (decay : Option ℝ) (s : Slot ℝ) :
    (sgdStep lr decay s).w = s.w - lr * (decayed decay s.w s.g) := rfl

theorem decayed_some (d w g : ℝ) : decayed (some d) w g = g + d * w := rfl
theorem decayed_none (w g : ℝ) : decayed (none : Option ℝ) w g = g := rfl

/-- SGD with momentum (PyTorch): first step `b ← g`, later `b ← μ b + (1−τ) g`; `w ← w − γ b` -/
theorem sgdm_rule_first (lr mo da : ℝ) (decay : Option ℝ) (s : Slot ℝ) :
    let g := decayed decay s.w s.g
    (sgdmStep lr mo da decay 1 s).s1 = g ∧ (sgdmStep lr mo da decay 1 s).w = s.w - lr * g := by
  simp [sgdmStep]

theorem sgdm_rule_later (lr mo da : ℝ) (decay : Option ℝ) (t : ℕ) (ht : 1 < t) (hm : mo ≠ 0) (s : Slot ℝ) :
    let g := decayed decay s.w s.g
    let b := s.s1 * mo + (1 - da) * g
    (sgdmStep lr mo da decay t s).s1 = b ∧ (sgdmStep lr mo da decay t s).w = s.w - lr * b := by
  have : (decide (t > 1) && !Scalar.beq mo 0) = true := by simp [ht, Scalar.beq, hm]
  simp [sgdmStep, this]

/-- Adam: `m ← β₁m + (1−β₁)g`, `v ← β₂v + (1−β₂)g²`, `w ← w − γ (m/(1−β₁ᵗ)) / (√(v/(1−β₂ᵗ)) + ε)` -/
theorem adam_rule (lr b1 b2 ep : ℝ) (decay : Option ℝ) (t : ℕ) (s : Slot ℝ) :
    let g := decayed decay s.w s.g
    let m := s.s1 * b1 + g * (1 - b1)
    let v := s.s2 * b2 + g ^ 2 * (1 - b2)
    (adamStep lr b1 b2 ep decay t s).s1 = m ∧ (adamStep lr b1 b2 ep decay t s).s2 = v ∧
    (adamStep lr b1 b2 ep decay t s).w = s.w - lr * (m / (1 - b1 ^ t)) / (Real.sqrt (v / (1 - b2 ^ t)) + ep) := by
  simp only [adamStep, powi_eq_pow, powf_two, sqrt_eq, and_self]

/-- AdamW: decoupled decay `w ← w − γλw` first, then the Adam step on the raw gradient -/
theorem adamw_rule (lr b1 b2 ep decay : ℝ) (t : ℕ) (s : Slot ℝ) :
    let m := s.s1 * b1 + s.g * (1 - b1)
    let v := s.s2 * b2 + s.g ^ 2 * (1 - b2)
    (adamwStep lr b1 b2 ep decay t s).w =
      (s.w - lr * decay * s.w) - lr * (m / (1 - b1 ^ t)) / (Real.sqrt (v / (1 - b2 ^ t)) + ep) := by
  simp only [adamwStep, powi_eq_pow, powf_two, sqrt_eq]

/-- RMSprop, not centred, no momentum: `v ← αv + (1−α)g²`, `w ← w − γ g / (√v + ε)` -/
theorem rmsprop_rule_plain (lr al ep : ℝ) (decay : Option ℝ) (s : Slot ℝ) :
    let g := decayed decay s.w s.g
    let v := al * s.s1 + (1 - al) * g ^ 2
    (rmspropStep lr al ep decay none false s).s1 = v ∧
    (rmspropStep lr al ep decay none false s).w = s.w - lr * g / (Real.sqrt v + ep) := by
  simp only [rmspropStep, powf_two, sqrt_eq, Bool.false_eq_true, if_false, and_self]

/-- RMSprop with momentum: `b ← μ b + g / (√ṽ + ε)`, `w ← w − γ b` -/
theorem rmsprop_rule_momentum (lr al ep mu : ℝ) (decay : Option ℝ) (s : Slot ℝ) :
    let g := decayed decay s.w s.g
    let v := al * s.s1 + (1 - al) * g ^ 2
    let b := mu * s.s3 + g / (Real.sqrt v + ep)
    (rmspropStep lr al ep decay (some mu) false s).s3 = b ∧
    (rmspropStep lr al ep decay (some mu) false s).w = s.w - lr * b := by
  simp only [rmspropStep, powf_two, sqrt_eq, Bool.false_eq_true, if_false, and_self]

/-- RMSprop centred: `ḡ ← αḡ + (1−α)g`, `ṽ = max(v − ḡ², 0)` (the `max` is the identity at `ℝ`, see
    `rmsprop_clamp_is_identity`) -/
theorem rmsprop_rule_centered (lr al ep : ℝ) (decay : Option ℝ) (s : Slot ℝ) :
    let g := decayed decay s.w s.g
    let v := al * s.s1 + (1 - al) * g ^ 2
    let ga := al * s.s2 + (1 - al) * g
    (rmspropStep lr al ep decay none true s).s1 = v ∧ (rmspropStep lr al ep decay none true s).s2 = ga ∧
    (rmspropStep lr al ep decay none true s).w = s.w - lr * g / (Real.sqrt (max (v - ga ^ 2) 0) + ep) := by
  simp only [rmspropStep, powf_two, fmax_eq, sqrt_eq, if_true, and_self]

/-- the decimal literals of `validate` as fractions -/
theorem lit_values : (lit 1 (-1) : ℝ) = 1 / 10 ∧ (lit 9 (-1) : ℝ) = 9 / 10 ∧ (lit 1 (-2) : ℝ) = 1 / 100 ∧
    (lit 99 (-2) : ℝ) = 99 / 100 ∧ (lit 1 (-3) : ℝ) = 1 / 1000 ∧ (lit 999 (-3) : ℝ) = 999 / 1000 ∧
    (lit 1 (-8) : ℝ) = 1 / 100000000 := by
  simp only [lit_eq]; norm_num

/-- `validate`: a zero hyper-parameter is replaced by the documented default, others are kept -/
theorem validate_eq (k : OptKind ℝ) : k.validate = match k with
    | .sgd lr decay => .sgd (if lr = 0 then 1 / 10 else lr) decay
    | .sgdm lr mo da decay => .sgdm (if lr = 0 then 1 / 10 else lr) (if mo = 0 then 9 / 10 else mo) da decay
    | .adam lr b1 b2 ep decay => .adam (if lr = 0 then 1 / 1000 else lr) (if b1 = 0 then 9 / 10 else b1)
        (if b2 = 0 then 999 / 1000 else b2) (if ep = 0 then 1 / 100000000 else ep) decay
    | .adamw lr b1 b2 ep decay => .adamw (if lr = 0 then 1 / 1000 else lr) (if b1 = 0 then 9 / 10 else b1)
        (if b2 = 0 then 999 / 1000 else b2) (if ep = 0 then 1 / 100000000 else ep) decay
    | .rmsprop lr al ep decay mo c => .rmsprop (if lr = 0 then 1 / 100 else lr) (if al = 0 then 99 / 100 else al)
        (if ep = 0 then 1 / 100000000 else ep) decay mo c := by
  obtain ⟨e1, e2, e3, e4, e5, e6, e7⟩ := lit_values
  cases k <;> simp only [OptKind.validate, beq_iff, e1, e2, e3, e4, e5, e6, e7]

theorem validate_defaults_adam (lr b1 b2 ep : ℝ) (decay : Option ℝ) :
    (OptKind.adam lr b1 b2 ep decay).validate =
      .adam (if lr = 0 then 1 / 1000 else lr) (if b1 = 0 then 9 / 10 else b1)
            (if b2 = 0 then 999 / 1000 else b2) (if ep = 0 then 1 / 100000000 else ep) decay := validate_eq _

theorem validate_defaults_rmsprop (lr al ep : ℝ) (decay mo : Option ℝ) (c : Bool) :
    (OptKind.rmsprop lr al ep decay mo c).validate =
      .rmsprop (if lr = 0 then 1 / 100 else lr) (if al = 0 then 99 / 100 else al)
            (if ep = 0 then 1 / 100000000 else ep) decay mo c := validate_eq _

theorem validate_defaults_sgdm (lr mo da : ℝ) (decay : Option ℝ) :
    (OptKind.sgdm lr mo da decay).validate =
      .sgdm (if lr = 0 then 1 / 10 else lr) (if mo = 0 then 9 / 10 else mo) da decay := validate_eq _

/-- Adam's bias correction never divides by zero: `0 < 1 − βᵗ` for `0 ≤ β < 1`, `t ≥ 1` -/
theorem adam_bias_correction_pos (β : ℝ) (h0 : 0 ≤ β) (h1 : β < 1) (t : ℕ) (ht : 1 ≤ t) :
    0 < 1 - Scalar.powi β t := by
  rw [powi_eq_pow]
  exact sub_pos.mpr (pow_lt_one₀ h0 h1 (Nat.one_le_iff_ne_zero.mp ht))

/-- a history of (step number, raw gradient) pairs applied to one element -/
noncomputable def iterate (k : OptKind ℝ) (s0 : Slot ℝ) (h : List (ℕ × ℝ)) : Slot ℝ :=
  h.foldl (fun s tg => k.step tg.1 { s with g := tg.2 }) s0

theorem iterate_invariant {k : OptKind ℝ} (P : Slot ℝ → Prop)
    (hstep : ∀ t g s, P s → P (k.step t { s with g := g })) (h : List (ℕ × ℝ)) (s0 : Slot ℝ) (h0 : P s0) :
    P (iterate k s0 h) :=
  L.foldl_inv P h0 fun s hs tg _ => hstep tg.1 tg.2 s hs

/-- Adam's second moment is non-negative after every history, so `√` stays in its domain and the
    denominator `√v̂ + ε` is positive for `ε > 0` -/
theorem adam_second_moment_nonneg (lr b1 b2 ep : ℝ) (decay : Option ℝ) (hb : 0 ≤ b2) (hb' : b2 ≤ 1)
    (h : List (ℕ × ℝ)) (s0 : Slot ℝ) (h0 : 0 ≤ s0.s2) :
    0 ≤ (iterate (.adam lr b1 b2 ep decay) s0 h).s2 := by
  refine iterate_invariant (fun s => 0 ≤ s.s2) (fun t g s hs => ?_) h s0 h0
  simp only [OptKind.step, adamStep, powf_two]
  have : 0 ≤ (1 - b2) := sub_nonneg.mpr hb'
  positivity

theorem adam_denominator_pos (v c ep : ℝ) (hv : 0 ≤ v) (hc : 0 < c) (he : 0 < ep) : 0 < Real.sqrt (v / c) + ep :=
  add_pos_of_nonneg_of_pos (Real.sqrt_nonneg _) he

/-- one centred-RMSprop step keeps `G ^ 2 ≤ V` (`G` the running average of the gradients, `V` of their squares) -/
theorem rms_step (α V G g : ℝ) (h0 : 0 ≤ α) (h1 : α ≤ 1) (hVG : G ^ 2 ≤ V) :
    (α * G + (1 - α) * g) ^ 2 ≤ α * V + (1 - α) * g ^ 2 := by
  -- the difference is `α (V − G²) + α (1 − α) (G − g)²`, a sum of two products of non-negative factors
  linarith [mul_nonneg h0 (sub_nonneg.mpr hVG), mul_nonneg (mul_nonneg h0 (sub_nonneg.mpr h1)) (sq_nonneg (G - g))]

/-- **invariant over every history**: from fresh (zero) state, after any sequence of steps with
    arbitrary gradients, centred RMSprop has `ḡ² ≤ v` — the centred variance is never negative -/
theorem rmsprop_centered_variance_nonneg (lr al ep : ℝ) (decay mo : Option ℝ) (h0 : 0 ≤ al) (h1 : al ≤ 1)
    (h : List (ℕ × ℝ)) (s0 : Slot ℝ) (hs : s0.s2 ^ 2 ≤ s0.s1) :
    (iterate (.rmsprop lr al ep decay mo true) s0 h).s2 ^ 2 ≤ (iterate (.rmsprop lr al ep decay mo true) s0 h).s1 := by
  refine iterate_invariant (fun s => s.s2 ^ 2 ≤ s.s1) (fun t g s hs => ?_) h s0 hs
  have key := rms_step al s.s1 s.s2 (decayed decay s.w g) h0 h1 hs
  cases mo <;> simp only [OptKind.step, rmspropStep, powf_two, if_true] <;> exact key

/-- hence the clamp at zero is the identity in exact arithmetic -/
theorem rmsprop_clamp_is_identity (V G : ℝ) (h : G ^ 2 ≤ V) : Scalar.fmax (V - Scalar.powf G Scalar.two) 0 = V - G ^ 2 := by
  rw [powf_two, fmax_eq, max_eq_left (sub_nonneg.mpr h)]

example : ((0 : ℝ)) ^ 2 ≤ 0 := by norm_num   -- the fresh state satisfies the invariant's premise

variable {α : Type} [Scalar α]

def AgreeAt (o o' : Optimizer α) (l f b : Nat) : Prop :=
  getSlot o.t1 l f b = getSlot o'.t1 l f b ∧ getSlot o.t2 l f b = getSlot o'.t2 l f b ∧
  getSlot o.t3 l f b = getSlot o'.t3 l f b

omit [Scalar α] in
theorem state_agree {o o' : Optimizer α} (hk : o.kind = o'.kind) {i l f b : Nat} {t t' : Table α} {z s : Tensor α}
    (v : Tensor α) (h : getSlot t l f b = getSlot t' l f b) (hr : readState o i t l f b z = .ok s) :
    readState o' i t' l f b z = .ok s ∧
      getSlot (writeState o i t l f b v) l f b = getSlot (writeState o' i t' l f b v) l f b := by
  unfold readState writeState at *
  rw [← hk, ← h]
  refine ⟨hr, ?_⟩
  split
  · rw [if_pos ‹_›] at hr
    rw [getSlot_setSlot_same t l f b v s hr, getSlot_setSlot_same t' l f b v s (h ▸ hr)]
  · exact h

omit [Scalar α] in
theorem writeState_other (o : Optimizer α) (i : Nat) (t : Table α) {l f b l' f' b' : Nat} (v : Tensor α)
    (h : (l, f, b) ≠ (l', f', b')) :
    getSlot (writeState o i t l f b v) l' f' b' = getSlot t l' f' b' := by
  unfold writeState
  split
  · exact getSlot_setSlot_other t v h
  · rfl

theorem update_eq_ok {o : Optimizer α} {l f : Nat} {bias : Bool} {t : Nat} {v g : Tensor α}
    {o1 : Optimizer α} {w g1 : Tensor α} :
    update o l f bias t v g = .ok (o1, w, g1) ↔
    ∃ s1 s2 s3 a b c,
      readState o 1 o.t1 l f (if bias then 1 else 0) (dummyLike v) = .ok s1 ∧
      readState o 2 o.t2 l f (if bias then 1 else 0) (dummyLike v) = .ok s2 ∧
      readState o 3 o.t3 l f (if bias then 1 else 0) (dummyLike v) = .ok s3 ∧
      applyStep (o.kind.step t) v g s1 s2 s3 = .ok (w, g1, a, b, c) ∧
      o1 = ⟨o.kind, writeState o 1 o.t1 l f (if bias then 1 else 0) a, writeState o 2 o.t2 l f (if bias then 1 else 0) b,
            writeState o 3 o.t3 l f (if bias then 1 else 0) c⟩ := by
  constructor
  · intro hu
    unfold update at hu
    simp only [] at hu
    split at hu
    · cases hu
    · cases hu
    · cases hu
    · rename_i s1 s2 s3 e1 e2 e3
      split at hu
      · cases hu
      · rename_i w' g' a b c ea
        cases hu
        exact ⟨s1, s2, s3, a, b, c, e1, e2, e3, ea, rfl⟩
  · rintro ⟨s1, s2, s3, a, b, c, e1, e2, e3, ea, rfl⟩
    simp only [update, e1, e2, e3, ea]

theorem update_own_slot {o o' : Optimizer α} (hk : o.kind = o'.kind) {l f : Nat} {bias : Bool} {t : Nat}
    {v g : Tensor α} (h : AgreeAt o o' l f (if bias then 1 else 0))
    {o1 : Optimizer α} {w g1 : Tensor α} (hu : update o l f bias t v g = .ok (o1, w, g1)) :
    ∃ o1', update o' l f bias t v g = .ok (o1', w, g1) ∧ o1'.kind = o1.kind ∧
      AgreeAt o1 o1' l f (if bias then 1 else 0) := by
  obtain ⟨h1, h2, h3⟩ := h
  obtain ⟨s1, s2, s3, a, b, c, e1, e2, e3, ea, rfl⟩ := update_eq_ok.mp hu
  obtain ⟨r1, w1⟩ := state_agree hk a h1 e1
  obtain ⟨r2, w2⟩ := state_agree hk b h2 e2
  obtain ⟨r3, w3⟩ := state_agree hk c h3 e3
  exact ⟨_, update_eq_ok.mpr ⟨s1, s2, s3, a, b, c, r1, r2, r3, hk ▸ ea, rfl⟩, hk.symm, w1, w2, w3⟩

theorem update_other_slot_unchanged {o : Optimizer α} {l f : Nat} {bias : Bool} {t : Nat} {v g : Tensor α}
    {o1 : Optimizer α} {w g1 : Tensor α} (hu : update o l f bias t v g = .ok (o1, w, g1))
    {l' f' b' : Nat} (hne : (l, f, (if bias then 1 else 0)) ≠ (l', f', b')) :
    o1.kind = o.kind ∧ AgreeAt o1 o l' f' b' := by
  obtain ⟨s1, s2, s3, a, b, c, -, -, -, -, rfl⟩ := update_eq_ok.mp hu
  exact ⟨rfl, writeState_other o 1 o.t1 a hne, writeState_other o 2 o.t2 b hne, writeState_other o 3 o.t3 c hne⟩

theorem run_cons_eq_ok {o : Optimizer α} {p : Table α} {s : Step α} {rest : List (Step α)} {r : Optimizer α × Table α} :
    run o p (s :: rest) = .ok r ↔
    ∃ v oa v' g', getSlot p s.layer s.filter (if s.bias then 1 else 0) = .ok v ∧
      update o s.layer s.filter s.bias s.stepnr v s.grad = .ok (oa, v', g') ∧
      run oa (setSlot p s.layer s.filter (if s.bias then 1 else 0) v') rest = .ok r := by
  constructor
  · intro h
    unfold run at h
    simp only [] at h
    split at h
    · cases h
    · rename_i v hv
      split at h
      · cases h
      · rename_i oa v' g' hu
        exact ⟨v, oa, v', g', hv, hu, h⟩
  · rintro ⟨v, oa, v', g', hv, hu, h⟩
    rw [run]; simp only [hv, hu, h]

def Step.isAt (s : Step α) (l f : Nat) (bias : Bool) : Bool := s.layer == l && s.filter == f && s.bias == bias

omit [Scalar α] in
theorem isAt_iff (s : Step α) (l f : Nat) (bias : Bool) :
    Step.isAt s l f bias = true ↔ s.layer = l ∧ s.filter = f ∧ s.bias = bias := by
  simp only [Step.isAt, Bool.and_eq_true, beq_iff_eq, and_assoc]

omit [Scalar α] in
/-- the bias flag is coded as table index 0 / 1 without loss -/
theorem slot_eq_iff_isAt (s : Step α) (l f : Nat) (bias : Bool) :
    (s.layer, s.filter, (if s.bias then 1 else 0 : Nat)) = (l, f, (if bias then 1 else 0)) ↔ Step.isAt s l f bias = true := by
  have hb : ((if s.bias then 1 else 0 : Nat) = if bias then 1 else 0) ↔ s.bias = bias := by
    cases s.bias <;> cases bias <;> decide
  rw [isAt_iff, Prod.mk.injEq, Prod.mk.injEq, hb]

/-- **history refinement / slot independence**: after *any* interleaved history over any slots, the
    parameters of slot `(l, f, bias)` are those obtained by running only that slot's own sub-history —
    state kept for one slot never influences another.  (Together with the per-element rules above:
    every slot follows the documented recurrence applied to its own gradients.) -/
theorem run_slot_independent (l f : Nat) (bias : Bool) :
    ∀ (steps : List (Step α)) (o o' : Optimizer α) (p p' : Table α),
      o.kind = o'.kind → AgreeAt o o' l f (if bias then 1 else 0) →
      getSlot p l f (if bias then 1 else 0) = getSlot p' l f (if bias then 1 else 0) →
      ∀ o1 p1, run o p steps = .ok (o1, p1) →
      ∃ o2 p2, run o' p' (steps.filter (fun s => Step.isAt s l f bias)) = .ok (o2, p2) ∧
        getSlot p2 l f (if bias then 1 else 0) = getSlot p1 l f (if bias then 1 else 0) := by
  intro steps
  induction steps with
  | nil =>
    intro o o' p p' _ _ hp o1 p1 hr
    cases hr
    exact ⟨o', p', rfl, hp.symm⟩
  | cons s rest ih =>
    intro o o' p p' hk ha hp o1 p1 hr
    obtain ⟨v, oa, v', g', hg, hu, hr⟩ := run_cons_eq_ok.mp hr
    by_cases hat : Step.isAt s l f bias = true
    · -- the step belongs to the slot: both runs perform it
      rw [List.filter_cons_of_pos (p := fun s => Step.isAt s l f bias) hat]
      obtain ⟨rfl, rfl, rfl⟩ := (isAt_iff s l f bias).mp hat
      obtain ⟨ob, hub, hkb, hab⟩ := update_own_slot hk ha hu
      have hg' := hp ▸ hg
      obtain ⟨o2, p2, hr2, hq⟩ := ih oa ob _ _ hkb.symm hab
        ((getSlot_setSlot_same p _ _ _ v' v hg).trans (getSlot_setSlot_same p' _ _ _ v' v hg').symm) o1 p1 hr
      exact ⟨o2, p2, run_cons_eq_ok.mpr ⟨v, ob, v', g', hg', hub, hr2⟩, hq⟩
    · -- the step belongs to another slot: only the full run performs it, and the slot is untouched
      rw [List.filter_cons_of_neg (p := fun s => Step.isAt s l f bias) hat]
      have hne := mt (slot_eq_iff_isAt s l f bias).mp hat
      obtain ⟨hka, a1, a2, a3⟩ := update_other_slot_unchanged hu hne
      obtain ⟨b1, b2, b3⟩ := ha
      exact ih oa o' _ p' (hka.trans hk) ⟨a1.trans b1, a2.trans b2, a3.trans b3⟩
        ((getSlot_setSlot_other p v' hne).trans hp) o1 p1 hr

section ranks
variable {β : Type} [Scalar β]
open Tensor

/-- rank 1 (biases, dense rows): position `j` of the result is `f self[j] [o[j] | o ∈ others]` -/
theorem nzip_elementwise_rank1 (f : β → List β → β) (d : V1 β) (others : List (V1 β)) (sh : Shape)
    (h : ∀ o ∈ others, o.length = d.length) :
    Tensor.nzip f ⟨sh, .single d⟩ (others.map (fun o => ⟨.single o.length, .single o⟩)) =
      .ok ⟨sh, .single (MeanG.spec1 f d others)⟩ := by
  simp only [Tensor.nzip, L.mapM'_map_ok asSingle (fun o => (⟨.single o.length, .single o⟩ : Tensor β)) (fun _ => rfl) others, MeanG.nzip1_spec f d others h]

/-- rank 2 (dense weight matrices) -/
theorem nzip_elementwise_rank2 (f : β → List β → β) (d : V2 β) (others : List (V2 β)) (sh sh' : Shape) (hh ww : Nat)
    (hd : L.Dims2 d hh ww) (ho : ∀ o ∈ others, L.Dims2 o hh ww) :
    Tensor.nzip f ⟨sh, .double d⟩ (others.map (fun o => ⟨sh', .double o⟩)) =
      .ok ⟨sh, .double (MeanG.spec2 f d others)⟩ := by
  simp only [Tensor.nzip, L.mapM'_map_ok asDouble (fun o => (⟨sh', .double o⟩ : Tensor β)) (fun _ => rfl) others, MeanG.nzip2_spec f hd ho]

/-- rank 3 (convolution / deconvolution kernels) -/
theorem nzip_elementwise_rank3 (f : β → List β → β) (d : V3 β) (others : List (V3 β)) (sh sh' : Shape) (c hh ww : Nat)
    (hd : L.Dims3 d c hh ww) (ho : ∀ o ∈ others, L.Dims3 o c hh ww) :
    Tensor.nzip f ⟨sh, .triple d⟩ (others.map (fun o => ⟨sh', .triple o⟩)) =
      .ok ⟨sh, .triple (MeanG.spec3 f d others)⟩ := by
  simp only [Tensor.nzip, L.mapM'_map_ok asTriple (fun o => (⟨sh', .triple o⟩ : Tensor β)) (fun _ => rfl) others, MeanG.nzip3_spec f hd ho]

/-- … and the entry of `spec3` at `(a, i, j)` is the scalar rule on the entries at `(a, i, j)`
    (`MeanG.spec1_get`, `spec2_get` for the lower ranks) -/
theorem rank3_entry (f : β → List β → β) (self : V3 β) (others : List (V3 β)) (c hh ww a i j : Nat)
    (hs : L.Dims3 self c hh ww) (ha : a < c) (hi : i < hh) (hj : j < ww) :
    (((MeanG.spec3 f self others).getD a []).getD i []).getD j 0 =
      f (((self.getD a []).getD i []).getD j 0) (others.map (fun o => ((o.getD a []).getD i []).getD j 0)) :=
  MeanG.spec3_get f others hs ha hi hj

end ranks

end C03
