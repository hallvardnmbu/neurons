import Model.Random
import Proofs.Reshape
import Proofs.Chunks

/-!
# C18 — the random generator stays in range and shuffling is a safe permutation

* the integer → single-precision conversion is modelled exactly on `Nat` (`Rng.toF32`), so the
  ratio `current / (modulus - 1)` is an exact dyadic rational and its range is a theorem;
* `generate`'s final value is limited to `[min, max]` — proved for every scalar type whose `<` is
  irreflexive (IEEE `<` and `ℝ`), so the two roundings before the limit cannot matter;
* `shuffle` returns a permutation and never fails, for every seed, every length and every scalar type.

Core Lean only: no import reaches Mathlib, so `omega`, `decide` and `simp` are at hand but not `interval_cases` or `norm_num`.
-/

namespace C18
open Rng Scalar

theorem roundE_le_add (e n : Nat) : roundE e n ≤ n + 2 ^ e := by
  unfold roundE
  have h := Nat.div_mul_le_self n (2 ^ e)
  dsimp only
  split
  · rw [Nat.add_mul]; omega
  · omega

/-- the quotient is monotone, and for equal quotients rounding up is monotone in the remainder -/
theorem roundE_mono (e : Nat) {m n : Nat} (h : m ≤ n) : roundE e m ≤ roundE e n := by
  have hq : m / 2 ^ e ≤ n / 2 ^ e := Nat.div_le_div_right h
  have hr : m / 2 ^ e = n / 2 ^ e → m % 2 ^ e ≤ n % 2 ^ e := fun hq => by
    have hm := Nat.div_add_mod m (2 ^ e)
    have hn := Nat.div_add_mod n (2 ^ e)
    rw [hq] at hm
    omega
  unfold roundE
  apply Nat.mul_le_mul_right
  split <;> split
  · exact Nat.succ_le_succ hq
  · omega   -- `m` is rounded up and `n` is not: the quotients differ, by `hr`
  · exact Nat.le_succ_of_le hq
  · exact hq

theorem ite_le {c : Prop} [Decidable c] {a b x : Nat} (ha : a ≤ x) (hb : b ≤ x) : (if c then a else b) ≤ x := by
  split <;> assumption

/-- every branch of the conversion moves `n` by at most `2^8` (bounding the conditional branch by branch:
    splitting the nine-fold `if` into cases is far dearer to check) -/
theorem toF32_le_add (n : Nat) : toF32 n ≤ n + 2 ^ 8 := by
  have h : ∀ e, e ≤ 8 → roundE e n ≤ n + 2 ^ 8 := fun e he =>
    Nat.le_trans (roundE_le_add e n) (Nat.add_le_add_left (Nat.pow_le_pow_right (by decide) he) n)
  unfold toF32
  repeat' apply ite_le
  · exact Nat.le_add_right _ _
  all_goals exact h _ (by decide)

theorem toF32_top_band (n : Nat) (h1 : 2 ^ 30 ≤ n) (h2 : n < 2 ^ 31) : toF32 n = roundE 7 n := by
  unfold toF32
  repeat rw [if_neg (by omega)]
  rw [if_pos h2]

/-- Below `2^30` the conversion moves a state by at most `2^8`; in the top band it is `roundE 7`, which is
    monotone.  So each threshold is read off by evaluating `roundE 7` at the boundary state `N`. -/
theorem toF32_le_of_le {n N : Nat} (h : n ≤ N) (hN : N < 2 ^ 31) (hb : 2 ^ 30 + 2 ^ 8 ≤ roundE 7 N) :
    toF32 n ≤ roundE 7 N := by
  by_cases h0 : n < 2 ^ 30
  · have := toF32_le_add n; omega
  · rw [toF32_top_band n (by omega) (by omega)]
    exact roundE_mono 7 h

theorem toF32_le (n : Nat) (h : n < 2 ^ 31) : toF32 n ≤ 2 ^ 31 :=
  Nat.le_trans (toF32_le_of_le (show n ≤ 2 ^ 31 - 1 by omega) (by decide) (by decide)) (by decide)

/-- exactly the top 64 states (63 of them reachable) convert to `2^31`, i.e. ratio `= 1` -/
theorem toF32_top (n : Nat) (h1 : 2 ^ 31 - 64 ≤ n) (h2 : n < 2 ^ 31) : toF32 n = 2 ^ 31 := by
  apply Nat.le_antisymm (toF32_le n h2)
  rw [toF32_top_band n (by omega) h2]
  exact Nat.le_trans (by decide) (roundE_mono 7 h1)

theorem toF32_below (n : Nat) (h : n < 2 ^ 31 - 64) : toF32 n < 2 ^ 31 :=
  Nat.lt_of_le_of_lt (toF32_le_of_le (show n ≤ 2 ^ 31 - 65 by omega) (by decide) (by decide)) (by decide)

theorem toF32_denominator : toF32 (modulus - 1) = 2 ^ 31 := by decide

/-- **ratio ∈ [0, 1]** for every generator state: numerator ≤ denominator (both exact integers) -/
theorem ratio_in_unit (s : Nat) (h : s < modulus) : toF32 s ≤ toF32 (modulus - 1) := by
  rw [toF32_denominator]
  exact toF32_le s (by unfold modulus at h; omega)

theorem ratio_eq_one_iff (s : Nat) (h : s < modulus) : toF32 s = toF32 (modulus - 1) ↔ 2 ^ 31 - 64 ≤ s := by
  rw [toF32_denominator]
  unfold modulus at h
  exact ⟨fun e => Nat.le_of_not_lt fun c => Nat.ne_of_lt (toF32_below s c) e, fun c => toF32_top s c (by omega)⟩

/-- the conversion is exact on everything below `2^24` and never moves a value by more than half a
    unit in the last place (here: at most 128 for states below `2^31`) -/
theorem toF32_small (n : Nat) (h : n < 2 ^ 24) : toF32 n = n := if_pos h

theorem toF32_mono_zero : toF32 0 = 0 := by decide

theorem create_lt (seed : Nat) : (create seed).current < modulus := Nat.mod_lt _ (by decide)

/-- from a reduced state the `u64` multiplication cannot overflow and the next state is reduced -/
theorem step_ok (g : Gen) (h : g.current < modulus) :
    ∃ g', step g = .ok g' ∧ g'.current < modulus ∧ g'.current = (multiplier * g.current) % modulus := by
  unfold step
  have : multiplier * g.current < 2 ^ 64 := by
    unfold multiplier; unfold modulus at h; omega
  simp only [this, if_true]
  exact ⟨_, rfl, Nat.mod_lt _ (by decide), rfl⟩

/-- seeds that agree modulo the modulus give the same generator (in particular seeds far above it) -/
theorem create_mod (seed : Nat) : create (seed % modulus) = create seed := by
  unfold create; rw [Nat.mod_mod]

variable {α : Type} [Scalar α]

/-- **generate(min, max) ∈ [min, max]** — for every state, every scalar type with an irreflexive `<`,
    every `min ≤ max` (stated as `¬ max < min`): the result is neither below `min` nor above `max` -/
theorem value_in_range (cur : Nat) (lo hi : α) (irr : ∀ a : α, lt a a = false) (h : lt hi lo = false) :
    lt (value cur lo hi) lo = false ∧ lt hi (value cur lo hi) = false := by
  unfold value
  simp only []
  generalize (ofNat' cur / ofNat' (modulus - 1)) * (hi - lo) + lo = v
  -- the lower limit answers `lo` or a `v` that is not below `lo`; the upper limit answers `hi` or what it was given
  have hlo : lt (fmax v lo) lo = false := by
    unfold fmax
    split
    · exact irr lo
    · split
      · exact irr lo
      · exact (Bool.not_eq_true _).mp ‹_›
  split
  · exact ⟨h, irr hi⟩
  · exact ⟨hlo, (Bool.not_eq_true _).mp ‹_›⟩

theorem generate_in_range (g : Gen) (lo hi : α) (hg : g.current < modulus)
    (irr : ∀ a : α, lt a a = false) (h : lt hi lo = false) :
    ∃ g' v, generate g lo hi = .ok (g', v) ∧ g'.current < modulus ∧ lt v lo = false ∧ lt hi v = false := by
  obtain ⟨g', h1, h2, _⟩ := step_ok g hg
  refine ⟨g', value g'.current lo hi, by simp [generate, h1], h2, value_in_range _ lo hi irr h⟩

theorem generateN_in_range (lo hi : α) (irr : ∀ a : α, lt a a = false) (h : lt hi lo = false) :
    ∀ (n : Nat) (g : Gen), g.current < modulus →
      ∃ g' vs, generateN lo hi n g = .ok (g', vs) ∧ g'.current < modulus ∧ vs.length = n ∧
        ∀ v ∈ vs, lt v lo = false ∧ lt hi v = false := by
  intro n
  induction n with
  | zero => intro g hg; exact ⟨g, [], rfl, hg, rfl, by simp⟩
  | succ n ih =>
    intro g hg
    obtain ⟨g1, v, e1, h1, r1, r2⟩ := generate_in_range g lo hi hg irr h
    obtain ⟨g2, vs, e2, h2, l2, r⟩ := ih g1 h1
    exact ⟨g2, v :: vs, by simp only [generateN, e1, e2], h2, by rw [List.length_cons, l2],
      List.forall_mem_cons.mpr ⟨⟨r1, r2⟩, r⟩⟩

/-- randomly initialised tensors: `fill` returns exactly the requested number of entries, all in range -/
theorem fill_shape_and_range (seed : Nat) (lo hi : α) (n : Nat)
    (irr : ∀ a : α, lt a a = false) (h : lt hi lo = false) :
    ∃ vs, fill (create seed) lo hi n = .ok vs ∧ vs.length = n ∧ ∀ v ∈ vs, lt v lo = false ∧ lt hi v = false := by
  obtain ⟨g', vs, e, _, l, r⟩ := generateN_in_range lo hi irr h n (create seed) (create_lt seed)
  exact ⟨vs, by simp [fill, e], l, r⟩

/-- **a randomly initialised rank-3 tensor has the requested shape**: recorded shape `c × h × w`, `c`
    matrices of `h` rows of `w` entries, `c·h·w` entries in all, every one of them in `[lo, hi]` -/
theorem randomTensor_triple (seed : Nat) (lo hi : α) (c h w : Nat)
    (irr : ∀ a : α, lt a a = false) (hlo : lt hi lo = false) :
    ∃ t, randomTensor (create seed) (.triple c h w) lo hi = .ok ⟨.triple c h w, .triple t⟩ ∧
      L.Dims3 t c h w ∧ (L.flatten3 t).length = c * h * w ∧
      ∀ v ∈ L.flatten3 t, lt v lo = false ∧ lt hi v = false := by
  obtain ⟨vs, hf, hl, hr⟩ := fill_shape_and_range seed lo hi (c * h * w) irr hlo
  obtain ⟨t, rest, ht, hd, rfl⟩ := L.takeMats_exact h w c vs (by rw [hl, Nat.mul_assoc]; exact Nat.le_refl _)
  exact ⟨t, by simp only [randomTensor, hf, ht], hd, L.length_flatten3 hd,
    fun v hv => hr v (List.mem_append_left _ hv)⟩

/-- rank 1: the requested number of entries, all in range -/
theorem randomTensor_single (seed : Nat) (lo hi : α) (n : Nat)
    (irr : ∀ a : α, lt a a = false) (hlo : lt hi lo = false) :
    ∃ vs, randomTensor (create seed) (.single n) lo hi = .ok ⟨.single n, .single vs⟩ ∧ vs.length = n ∧
      ∀ v ∈ vs, lt v lo = false ∧ lt hi v = false := by
  obtain ⟨vs, hf, hl, hr⟩ := fill_shape_and_range seed lo hi n irr hlo
  exact ⟨vs, by simp only [randomTensor, hf], hl, hr⟩

/-- **a randomly initialised rank-2 tensor has the requested shape**: recorded shape `r × c`, `r` rows of `c`
    entries drawn in row-major order, `r·c` entries in all, every one of them in `[lo, hi]` -/
theorem randomTensor_double (seed : Nat) (lo hi : α) (r c : Nat)
    (irr : ∀ a : α, lt a a = false) (hlo : lt hi lo = false) :
    ∃ rows, randomTensor (create seed) (.double r c) lo hi = .ok ⟨.double r c, .double rows⟩ ∧
      rows.length = r ∧ (∀ row ∈ rows, row.length = c) ∧ rows.flatten.length = r * c ∧
      ∀ v ∈ rows.flatten, lt v lo = false ∧ lt hi v = false := by
  obtain ⟨vs, hf, hl, hr⟩ := fill_shape_and_range seed lo hi (r * c) irr hlo
  obtain ⟨rows, rest, ht, ⟨h1, h2⟩, rfl⟩ := L.takeRows_exact c r vs (Nat.le_of_eq hl.symm)
  exact ⟨rows, by simp only [randomTensor, hf, ht], h1, h2, L.length_flatten_rows ⟨h1, h2⟩,
    fun v hv => hr v (List.mem_append_left _ hv)⟩

/-- a list of `a·b` elements is the concatenation of `a` groups of `b` -/
theorem exists_groups {β : Type} (b : Nat) : ∀ (a : Nat) (l : List β), l.length = a * b →
    ∃ gs : List (List β), gs.flatten = l ∧ gs.length = a ∧ ∀ g ∈ gs, g.length = b := by
  intro a l h
  obtain ⟨gs, rest, ⟨h1, h2⟩, rfl⟩ := L.exists_rows b a l (Nat.le_of_eq h.symm)
  rw [List.length_append, L.length_flatten_rows ⟨h1, h2⟩] at h
  have : rest = [] := List.eq_nil_of_length_eq_zero (by omega)
  exact ⟨gs, by simp [this], h1, h2⟩

/-- **a randomly initialised rank-4 tensor has the requested shape**: recorded shape `a × b × r × c`, `a` blocks of `b`
    matrices of `r` rows of `c` entries, every entry in `[lo, hi]`.  `0 < b`: for `b = 0` the model regroups the `a·0 = 0`
    matrices into no block at all, not into `a` empty ones. -/
theorem randomTensor_quadruple (seed : Nat) (lo hi : α) (a b r c : Nat) (hb : 0 < b)
    (irr : ∀ x : α, lt x x = false) (hlo : lt hi lo = false) :
    ∃ q, randomTensor (create seed) (.quadruple a b r c) lo hi = .ok ⟨.quadruple a b r c, .quadruple q⟩ ∧
      q.length = a ∧ (∀ blk ∈ q, blk.length = b ∧ ∀ m ∈ blk, m.length = r ∧ ∀ row ∈ m, row.length = c) ∧
      ∀ blk ∈ q, ∀ m ∈ blk, ∀ row ∈ m, ∀ v ∈ row, lt v lo = false ∧ lt hi v = false := by
  obtain ⟨vs, hf, hl, hr⟩ := fill_shape_and_range seed lo hi (a * b * r * c) irr hlo
  obtain ⟨ms, rest, ht, ⟨h1, h2⟩, h3⟩ := L.takeMats_exact r c (a * b) vs (by rw [hl, Nat.mul_assoc (a * b) r c]; exact Nat.le_refl _)
  obtain ⟨q, hq1, hq2, hq3⟩ := exists_groups b a ms h1
  have hch : L.chunksExact b ms = q := by
    rw [← hq1]
    exact L.chunksExact_flatten hb hq3
  have hmem : ∀ blk ∈ q, ∀ m ∈ blk, m ∈ ms := fun blk hblk m hm => hq1 ▸ List.mem_flatten.mpr ⟨blk, hblk, hm⟩
  refine ⟨q, by simp only [randomTensor, hf, ht, hch], hq2,
    fun blk hblk => ⟨hq3 blk hblk, fun m hm => h2 m (hmem blk hblk m hm)⟩, fun blk hblk m hm row hrow v hv => hr v ?_⟩
  rw [← h3]
  apply List.mem_append_left
  exact List.mem_flatten.mpr ⟨m.flatten, List.mem_map.mpr ⟨m, hmem blk hblk m hm, rfl⟩, List.mem_flatten.mpr ⟨row, hrow, hv⟩⟩

theorem swap_perm {β : Type} (l : List β) (i j : Nat) : (swap l i j).Perm l := by
  unfold swap
  split
  · rename_i h; exact List.set_set_perm h.1 h.2
  · exact List.Perm.refl _

theorem swap_length {β : Type} (l : List β) (i j : Nat) : (swap l i j).length = l.length := by
  unfold swap; split <;> simp

theorem drawIndex_lt (cur len : Nat) (h : 0 < len) : drawIndex (α := α) cur len < len :=
  Nat.lt_of_le_of_lt (Nat.min_le_right _ _) (Nat.sub_one_lt (Nat.ne_of_gt h))

theorem shuffleAux_ok {β : Type} : ∀ (fuel i : Nat) (g : Gen) (l : List β), g.current < modulus →
    fuel ≤ l.length →
    ∃ g' l', shuffleAux α fuel i g l = .ok (g', l') ∧ g'.current < modulus ∧ l'.Perm l := by
  intro fuel
  induction fuel with
  | zero => intro i g l hg _; exact ⟨g, l, rfl, hg, List.Perm.refl _⟩
  | succ fuel ih =>
    intro i g l hg hf
    obtain ⟨g1, e1, h1, _⟩ := step_ok g hg
    have hpos : 0 < l.length := by omega
    have hj := drawIndex_lt (α := α) g1.current l.length hpos
    obtain ⟨g2, l2, e2, h2, p2⟩ := ih (i + 1) g1 (swap l i (drawIndex (α := α) g1.current l.length)) h1
      (by rw [swap_length]; omega)
    refine ⟨g2, l2, ?_, h2, p2.trans (swap_perm _ _ _)⟩
    simp only [shuffleAux, e1, hj, if_true, e2]

/-- **shuffle never panics and returns a permutation**, for every 64-bit (indeed every) seed, every
    length and every scalar type used for the index arithmetic -/
theorem shuffle_perm {β : Type} (seed : Nat) (l : List β) :
    ∃ g' l', shuffle α (create seed) l = .ok (g', l') ∧ l'.Perm l := by
  obtain ⟨g', l', e, _, p⟩ := shuffleAux_ok (α := α) l.length 0 (create seed) l (create_lt seed) (Nat.le_refl _)
  exact ⟨g', l', e, p⟩

/-- same multiset of elements, same length -/
theorem shuffle_length {β : Type} (seed : Nat) (l : List β) :
    ∃ g' l', shuffle α (create seed) l = .ok (g', l') ∧ l'.length = l.length := by
  obtain ⟨g', l', e, p⟩ := shuffle_perm (α := α) seed l
  exact ⟨g', l', e, p.length_eq⟩

/-! non-vacuity / regression witnesses (the states that broke the pinned code) -/
example : toF32 2147483646 = 2147483648 := by decide
example : toF32 2147483583 = 2147483520 := by decide
example : (create 570515015).current < modulus := by decide
example : (multiplier * 570515015) % modulus = 2147483646 - 62 := by decide

end C18
