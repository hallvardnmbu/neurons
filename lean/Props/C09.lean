import Model.Train
import Proofs.NoDropout
import Props.C13

/-!
# C09 — dropout never leaks into prediction or validation

About the dropout flags of `Model/Network.lean` / `Model/Train.lean`: `Layer.flags`, `setAllTraining`,
`finish`, the three `forward`s, `Network.validate`, `Network.learn`.  Any scalar type, any layer
sequence, any position and rate of the dropout layers.
-/

namespace C09
open Network Scalar

variable {α : Type} [Scalar α]

/-! ### a layer whose flag is off ignores its dropout setting -/

/-- the tail of every `forward`: with the flag off the dropout rate is never looked at -/
theorem finish_flag_off (post : Tensor α) (d d' : Option α) (fl : Bool) :
    finish post false d fl = finish post false d' fl := rfl

theorem dense_forward_flag_off (l : DenseLayer α) (d' : Option α) (x : Tensor α) :
    DenseLayer.forward { l with training := false } x = DenseLayer.forward { l with training := false, dropout := d' } x := rfl

theorem conv_forward_flag_off (l : Conv α) (d' : Option α) (x : Tensor α) :
    Conv.forward { l with training := false } x = Conv.forward { l with training := false, dropout := d' } x := rfl

theorem deconv_forward_flag_off (l : Deconv α) (d' : Option α) (x : Tensor α) :
    Deconv.forward { l with training := false } x = Deconv.forward { l with training := false, dropout := d' } x := rfl

/-- with the flag off and no dropout configured, `finish` is just the optional flatten — so a layer
    with its flag off computes exactly what the same layer built without dropout computes -/
theorem finish_off_is_flatten (post : Tensor α) (d : Option α) :
    finish post false d false = .ok post ∧ finish post false d true = post.flatten := ⟨rfl, rfl⟩

/-! ### validation: all flags off while predicting, restored afterwards -/

set_option linter.unusedSectionVars false in
/-- every prediction `validate` makes is made by `n.setAllTraining false`, whose flags are all off —
    for *every* layer list and *every* flag state on entry (in particular when called by `learn`, with
    all flags on) -/
theorem validate_predicts_with_flags_off (n : Network α) : ∀ f ∈ (n.setAllTraining false).flags, f = false :=
  NoDropout.setAllTraining_flags n false

/-- `validate` hands back a network whose flags are all on if any flag was on at entry, all off otherwise
    (so in-training calls restore "all on", stand-alone calls leave "all off") -/
theorem validate_restores (n n' : Network α) (xs ts : List (Tensor α)) (tol l a : α)
    (h : n.validate xs ts tol = .ok (n', l, a)) :
    n' = (if n.flags.any id then (n.setAllTraining false).setAllTraining true else n.setAllTraining false) := by
  unfold validate at h
  simp only [] at h
  split at h
  · cases h
  · simp only [Except.ok.injEq, Prod.mk.injEq] at h
    exact h.1.symm

theorem validate_flags_after (n n' : Network α) (xs ts : List (Tensor α)) (tol l a : α)
    (h : n.validate xs ts tol = .ok (n', l, a)) : ∀ f ∈ n'.flags, f = n.flags.any id := by
  rw [validate_restores n n' xs ts tol l a h]
  cases n.flags.any id with
  | false => exact NoDropout.setAllTraining_flags n false
  | true => exact NoDropout.setAllTraining_flags _ true

section
omit [Scalar α]

theorem setAllTraining_idem_inner (t t' : Bool) (l : InnerLayer α) :
    InnerLayer.setTraining t (InnerLayer.setTraining t' l) = InnerLayer.setTraining t l := by
  cases l <;> rfl

theorem setAllTraining_idem_layer (t t' : Bool) (l : Layer α) :
    Layer.setTraining t (Layer.setTraining t' l) = Layer.setTraining t l := by
  cases l with
  | feedback f =>
    simp only [Layer.setTraining, Feedback.setTraining, List.map_map]
    congr 2
    exact List.map_congr_left (fun x _ => setAllTraining_idem_inner t t' x)
  | _ => rfl

theorem setAllTraining_idem (n : Network α) (t t' : Bool) :
    (n.setAllTraining t').setAllTraining t = n.setAllTraining t := by
  simp only [Network.setAllTraining, List.map_map]
  congr 1
  exact List.map_congr_left (fun l _ => setAllTraining_idem_layer t t' l)

end

/-- forcing the flags first does not change what `validate` measures: it clears them itself -/
theorem validate_setAllTraining (n : Network α) (t : Bool) (xs ts : List (Tensor α)) (tol : α) :
    NoDropout.metrics ((n.setAllTraining t).validate xs ts tol) = NoDropout.metrics (n.validate xs ts tol) := by
  unfold validate
  simp only [setAllTraining_idem]
  split <;> rfl

/-- **the metrics do not depend on the flags found at entry**: `validate` of a network with all flags forced on
    (the in-training situation) or off computes them from the same flag-free copy -/
theorem validate_independent_of_flags (n : Network α) (t : Bool) (xs ts : List (Tensor α)) (tol : α) :
    ((n.setAllTraining t).validate xs ts tol).map (fun r => (r.2.1, r.2.2)) =
    ((n.setAllTraining false).validate xs ts tol).map (fun r => (r.2.1, r.2.2)) := by
  rw [← NoDropout.metrics_eq_map, ← NoDropout.metrics_eq_map, validate_setAllTraining n t, validate_setAllTraining n false]

/-! ### after training returns -/

theorem learn_exit_all_off (n : Network α) (inputs targets : List (Tensor α))
    (validation : Option (List (Tensor α) × List (Tensor α) × Nat)) (batch epochs : Nat) (script : List α)
    (res : LearnResult α) (h : n.learn inputs targets validation batch epochs script = .ok res) :
    ∀ f ∈ res.net.flags, f = false := by
  obtain ⟨-, r, -, rfl⟩ := C13.learn_ok h
  exact NoDropout.setAllTraining_flags _ false

/-! ### … and predicts like the same network built without dropout

`NoDropout.network n` is `n` with no dropout configured anywhere (every dense, convolution and
deconvolution layer, inside feedback blocks too); connections, loops, objective and parameters unchanged. -/

/-- **with every flag off, the whole forward pass — through feedback blocks, skip connections and loop
    connections — records exactly the trace of the network built without dropout** -/
theorem flags_off_forward_like_dropout_free (n : Network α) (h : ∀ f ∈ n.flags, f = false) (x : Tensor α) :
    n.forward x = (NoDropout.network n).forward x :=
  (NoDropout.forward_eq n (NoDropout.flagsOff_of_flags n h) x).symm

/-- **after `learn` returns, the network predicts exactly like an identical network configured without
    dropout** — for every architecture, data set, validation setting, batch size and number of epochs -/
theorem after_learn_predicts_like_dropout_free (n : Network α) (inputs targets : List (Tensor α))
    (validation : Option (List (Tensor α) × List (Tensor α) × Nat)) (batch epochs : Nat) (script : List α)
    (res : LearnResult α) (h : n.learn inputs targets validation batch epochs script = .ok res) (x : Tensor α) :
    res.net.predict x = (NoDropout.network res.net).predict x :=
  (NoDropout.predict_eq res.net
    (NoDropout.flagsOff_of_flags _ (learn_exit_all_off n inputs targets validation batch epochs script res h)) x).symm

/-- **the validation metrics — also those `learn` computes while every flag is on — are the metrics of
    the network built without dropout** -/
theorem validate_metrics_are_dropout_free (n : Network α) (t : Bool) (xs ts : List (Tensor α)) (tol : α) :
    NoDropout.metrics ((n.setAllTraining t).validate xs ts tol) =
      NoDropout.metrics ((NoDropout.network n).validate xs ts tol) := by
  rw [NoDropout.validate_eq n, validate_setAllTraining n t]

end C09
