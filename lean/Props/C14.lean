import Model.Tensor
import Proofs.TensorWf

/-!
# C14 — reshaping and flattening preserve the row-major element sequence

Statements are about the model functions `Tensor.flatten`, `Tensor.getFlat`, `Tensor.getTriple`,
`Tensor.reshape` (`Model/Tensor.lean`), for every scalar type `α`, every shape (including dimensions
of size 1) and all contents.
-/

-- most theorems here carry `[Scalar α]` without using it: they hold for any element type
set_option linter.unusedSectionVars false

namespace C14
variable {α : Type} [Scalar α]
open Tensor

/-- `get_flat` of a well-formed vector or 3-D tensor is its row-major sequence -/
theorem getFlat_spec (t : Tensor α) (h : match t.data with | .single _ => True | .triple _ => True | _ => False) :
    t.getFlat = .ok t.flat := by
  unfold getFlat flat
  cases hd : t.data <;> simp_all

/-- flattening a 3-D tensor keeps the row-major sequence and the element count and records the shape
    of the data it holds (`c, h ≥ 1`: the Rust code reads `data[0][0]`) -/
theorem flatten_spec (c h w : Nat) (d : V3 α) (hd : L.Dims3 d c h w) (hc : 0 < c) (hh : 0 < h) :
    ∃ r, (⟨.triple c h w, .triple d⟩ : Tensor α).flatten = .ok r ∧
      r.shape = .single (c * h * w) ∧ r.Wf ∧ r.flat = L.flatten3 d := by
  obtain ⟨r0, rs, ms, rfl, _, _⟩ := L.dims3_cons hd hc hh
  exact ⟨⟨.single _, .single _⟩, rfl, by simp only [L.length_flatten3 hd], by simp [Wf], rfl⟩

/-- reading a vector as `c × h × w` yields exactly those dimensions and the same sequence -/
theorem getTriple_spec (c h w : Nat) (v : V1 α) (hv : v.length = c * h * w) :
    ∃ d, (Tensor.single v).getTriple (.triple c h w) = .ok d ∧ L.Dims3 d c h w ∧ L.flatten3 d = v := by
  obtain ⟨t, h1, h2, h3⟩ := L.toTriple_exact c h w v hv
  exact ⟨t, by simp [getTriple, Tensor.single, h1], h2, h3⟩

omit [Scalar α] in
theorem reshape_vec_ok (c h w : Nat) (v : V1 α) (hv : v.length = c * h * w) :
    ∃ t, (⟨.single v.length, .single v⟩ : Tensor α).reshape (.triple c h w) = .ok ⟨.triple c h w, .triple t⟩ ∧
      L.Dims3 t c h w ∧ L.flatten3 t = v := by
  obtain ⟨t, h1, h2, h3⟩ := L.toTriple_exact c h w v hv
  exact ⟨t, by simp [reshape, getFlat, hv, h1], h2, h3⟩

omit [Scalar α] in
theorem reshape_3d_eq (c h w c' h' w' : Nat) (d t : V3 α) (hn : c * h * w = c' * h' * w')
    (ht : L.toTriple c' h' w' (L.flatten3 d) = .ok t) :
    (⟨.triple c h w, .triple d⟩ : Tensor α).reshape (.triple c' h' w') = .ok ⟨.triple c' h' w', .triple t⟩ := by
  simp [reshape, getFlat, hn, ht]

/-- vector → 3-D with the same element count: accepted; sequence, count and recorded shape are right -/
theorem reshape_vec_to_3d (c h w : Nat) (v : V1 α) (hv : v.length = c * h * w) :
    ∃ r, (⟨.single v.length, .single v⟩ : Tensor α).reshape (.triple c h w) = .ok r ∧
      r.shape = .triple c h w ∧ r.Wf ∧ r.flat = v := by
  obtain ⟨t, h1, h2, h3⟩ := reshape_vec_ok c h w v hv
  exact ⟨_, h1, rfl, h2, h3⟩

/-- 3-D → 3-D with the same element count: accepted, and the result is the `c' × h' × w'` nest with the same row-major
    sequence -/
theorem reshape_3d_to_3d (c h w c' h' w' : Nat) (d : V3 α) (hd : L.Dims3 d c h w)
    (hn : c * h * w = c' * h' * w') :
    ∃ t, (⟨.triple c h w, .triple d⟩ : Tensor α).reshape (.triple c' h' w') = .ok ⟨.triple c' h' w', .triple t⟩ ∧
      L.Dims3 t c' h' w' ∧ L.flatten3 t = L.flatten3 d := by
  obtain ⟨t, h1, h2, h3⟩ := L.toTriple_exact c' h' w' (L.flatten3 d) (by rw [L.length_flatten3 hd, hn])
  exact ⟨t, reshape_3d_eq c h w c' h' w' d t hn h1, h2, h3⟩

theorem reshape_3d_to_vec (c h w n : Nat) (d : V3 α) (hd : L.Dims3 d c h w) (hc : 0 < c) (hh : 0 < h)
    (hn : c * h * w = n) :
    ∃ r, (⟨.triple c h w, .triple d⟩ : Tensor α).reshape (.single n) = .ok r ∧
      r.shape = .single n ∧ r.Wf ∧ r.flat = L.flatten3 d := by
  obtain ⟨r, h1, h2, h3, h4⟩ := flatten_spec c h w d hd hc hh
  refine ⟨r, ?_, by rw [h2, hn], h3, h4⟩
  simp [reshape, hn, h1]

/-- a reshape to a different element count is refused, in all three arms -/
theorem reshape_rejects_vec_to_3d (n c h w : Nat) (d : Data α) (hn : n ≠ c * h * w) :
    (⟨.single n, d⟩ : Tensor α).reshape (.triple c h w) = .error .shape := by
  simp [reshape, hn]

theorem reshape_rejects_3d_to_3d (c h w c' h' w' : Nat) (d : Data α) (hn : c * h * w ≠ c' * h' * w') :
    (⟨.triple c h w, d⟩ : Tensor α).reshape (.triple c' h' w') = .error .shape := by
  simp [reshape, hn]

theorem reshape_rejects_3d_to_vec (c h w n : Nat) (d : Data α) (hn : c * h * w ≠ n) :
    (⟨.triple c h w, d⟩ : Tensor α).reshape (.single n) = .error .shape := by
  simp [reshape, hn]

/-- there and back again is the identity (vector → 3-D → vector) -/
theorem reshape_round_trip_vec (c h w : Nat) (v : V1 α) (hv : v.length = c * h * w) (hc : 0 < c) (hh : 0 < h) :
    ∃ r r', (⟨.single v.length, .single v⟩ : Tensor α).reshape (.triple c h w) = .ok r ∧
      r.reshape (.single v.length) = .ok r' ∧ r' = ⟨.single v.length, .single v⟩ := by
  obtain ⟨t, h1, h2, h3⟩ := reshape_vec_ok c h w v hv
  obtain ⟨r0, rs, ms, rfl, _, _⟩ := L.dims3_cons h2 hc hh
  refine ⟨_, _, h1, ?_, rfl⟩
  simp [reshape, flatten, hv, h3]

/-- there and back again is the identity (3-D → 3-D → 3-D) -/
theorem reshape_round_trip_3d (c h w c' h' w' : Nat) (d : V3 α) (hd : L.Dims3 d c h w)
    (hn : c * h * w = c' * h' * w') :
    ∃ r r', (⟨.triple c h w, .triple d⟩ : Tensor α).reshape (.triple c' h' w') = .ok r ∧
      r.reshape (.triple c h w) = .ok r' ∧ r'.shape = .triple c h w ∧ r'.Wf ∧ r'.flat = L.flatten3 d := by
  obtain ⟨t, h1, _, h3⟩ := reshape_3d_to_3d c h w c' h' w' d hd hn
  -- reading the sequence back at the old dimensions gives `d` itself
  have h2 := L.toTriple_flatten3 hd
  rw [← h3] at h2
  exact ⟨_, _, h1, reshape_3d_eq c' h' w' c h w t d hn.symm h2, rfl, hd, rfl⟩

/-- row-major means: two well-formed 3-D tensors of the same dimensions with the same flat sequence
    are equal — so "same sequence" in the theorems above pins down every element's position -/
theorem dims3_flat_injective (c h w : Nat) (a b : V3 α) (ha : L.Dims3 a c h w) (hb : L.Dims3 b c h w)
    (hf : L.flatten3 a = L.flatten3 b) : a = b := by
  have e := L.toTriple_flatten3 ha
  rw [hf, L.toTriple_flatten3 hb] at e
  exact (Except.ok.inj e).symm

/-! non-vacuity: concrete instances of the hypotheses -/
example : L.Dims3 ([[[1, 2, 3], [4, 5, 6]]] : V3 Nat) 1 2 3 := by
  refine ⟨rfl, ?_⟩; intro m hm; simp at hm; subst hm; refine ⟨rfl, ?_⟩; intro r hr; simp at hr; rcases hr with h | h <;> subst h <;> rfl
example : L.toTriple 3 1 2 [1, 2, 3, 4, 5, 6] = .ok [[[1, 2]], [[3, 4]], [[5, 6]]] := by rfl
example : L.toTriple 2 2 2 [1, 2, 3, 4, 5, 6] = .error .index := by rfl

omit [Scalar α] in
/-- **row-major, position by position**: element `(i, j, k)` of a well-formed `c × h × w` tensor is
    element `i·(h·w) + j·w + k` of its flat sequence (what `flatten` / `get_flat` hand on) -/
theorem flat_position (c h w : Nat) (d : V3 α) (hd : L.Dims3 d c h w) (i j k : Nat) (hj : j < h) (hk : k < w) :
    (⟨.triple c h w, .triple d⟩ : Tensor α).flat[i * (h * w) + (j * w + k)]? =
      ((d[i]?).bind (·[j]?)).bind (·[k]?) :=
  L.flatten3_getElem? hd i j k hj hk

/-- a 3-D → 3-D reshape moves no element along the sequence: whatever sits at `(i, j, k)` of the
    source sits at every `(i', j', k')` of the result with the same row-major position -/
theorem reshape_3d_to_3d_positions (c h w c' h' w' : Nat) (d : V3 α) (hd : L.Dims3 d c h w)
    (hn : c * h * w = c' * h' * w') :
    ∃ d', (⟨.triple c h w, .triple d⟩ : Tensor α).reshape (.triple c' h' w') = .ok ⟨.triple c' h' w', .triple d'⟩ ∧
      ∀ i j k i' j' k', j < h → k < w → j' < h' → k' < w' →
        i * (h * w) + (j * w + k) = i' * (h' * w') + (j' * w' + k') →
        ((d'[i']?).bind (·[j']?)).bind (·[k']?) = ((d[i]?).bind (·[j]?)).bind (·[k]?) := by
  obtain ⟨t, h1, h2, h3⟩ := reshape_3d_to_3d c h w c' h' w' d hd hn
  refine ⟨t, h1, ?_⟩
  intro i j k i' j' k' hj hk hj' hk' e
  rw [← L.flatten3_getElem? h2 i' j' k' hj' hk', ← L.flatten3_getElem? hd i j k hj hk, h3, e]

omit [Scalar α] in
/-- vector → 3-D: element `(i, j, k)` of the result is element `i·(h·w) + j·w + k` of the vector -/
theorem reshape_vec_to_3d_positions (c h w : Nat) (v : V1 α) (hv : v.length = c * h * w) :
    ∃ d', (⟨.single v.length, .single v⟩ : Tensor α).reshape (.triple c h w) = .ok ⟨.triple c h w, .triple d'⟩ ∧
      ∀ i j k, j < h → k < w →
        ((d'[i]?).bind (·[j]?)).bind (·[k]?) = v[i * (h * w) + (j * w + k)]? := by
  obtain ⟨t, h1, h2, h3⟩ := reshape_vec_ok c h w v hv
  refine ⟨t, h1, ?_⟩
  intro i j k hj hk
  rw [← L.flatten3_getElem? h2 i j k hj hk, h3]

/-- non-vacuity: a 2 × 2 × 3 tensor, element (1, 0, 2) at position 1·6 + 0·3 + 2 = 8 -/
example : (L.flatten3 [[[0, 1, 2], [3, 4, 5]], [[6, 7, 8], [9, 10, 11]]] : List Nat)[1 * (2 * 3) + (0 * 3 + 2)]? = some 8 := by decide

/-- reading a vector as `c × h × w` (`get_triple`, the entry of every spatial layer fed a flat input):
    element `(i, j, k)` of what is read is element `i·(h·w) + j·w + k` of the vector -/
theorem getTriple_positions (c h w : Nat) (v : V1 α) (hv : v.length = c * h * w) :
    ∃ d, (Tensor.single v).getTriple (.triple c h w) = .ok d ∧
      ∀ i j k, j < h → k < w → ((d[i]?).bind (·[j]?)).bind (·[k]?) = v[i * (h * w) + (j * w + k)]? := by
  obtain ⟨d, h1, h2, h3⟩ := getTriple_spec c h w v hv
  refine ⟨d, h1, ?_⟩
  intro i j k hj hk
  rw [← L.flatten3_getElem? h2 i j k hj hk, h3]

/-- `flatten` (what a dense layer receives from a spatial one): position `i·(h·w) + j·w + k` of the
    result holds element `(i, j, k)` -/
theorem flatten_positions (c h w : Nat) (d : V3 α) (hd : L.Dims3 d c h w) (hc : 0 < c) (hh : 0 < h) :
    ∃ r, (⟨.triple c h w, .triple d⟩ : Tensor α).flatten = .ok r ∧
      ∀ i j k, j < h → k < w → r.flat[i * (h * w) + (j * w + k)]? = ((d[i]?).bind (·[j]?)).bind (·[k]?) := by
  obtain ⟨r, h1, _, _, h4⟩ := flatten_spec c h w d hd hc hh
  refine ⟨r, h1, ?_⟩
  intro i j k hj hk
  rw [h4, L.flatten3_getElem? hd i j k hj hk]

end C14
