import Model.Activation
import Proofs.Real
import Proofs.Folds
import Proofs.TensorWf
import Proofs.Zip

/-!
# C07 — activations: defined function, exact derivative, ranges, soft-max laws

All statements are about the model functions `Act.f`, `Act.df`, `Act.softmaxL`, `Act.forward`
(`Model/Activation.lean`) instantiated at `ℝ`.  What is *not* a theorem: totality and the closed
ranges on all 2^32 binary32 bit patterns — that is swept exhaustively on the implementation by the
thorough tier of `./check C07`.
-/

namespace C07
open Act Scalar RealScalar

theorem relu_def (x : ℝ) : Act.f .relu x = max x 0 := by
  simp only [Act.f]; exact fmax_eq x 0

theorem alpha_def : (Act.alpha : ℝ) = 1 / 100 := by
  unfold Act.alpha; rw [lit_eq]; norm_num

theorem leaky_def (x : ℝ) : Act.f .leaky x = if 0 < x then x else (1 / 100) * x := by
  simp only [Act.f, alpha_def]
  by_cases h : (0 : ℝ) < x <;> simp [h]

theorem sigmoid_def (x : ℝ) : Act.f .sigmoid x = 1 / (1 + Real.exp (-x)) := rfl
theorem tanh_def (x : ℝ) : Act.f .tanh x = Real.tanh x := rfl
theorem linear_def (x : ℝ) : Act.f .linear x = x := rfl

/-! ### backward is the derivative of forward -/

theorem relu_hasDerivAt (x : ℝ) (hx : x ≠ 0) : HasDerivAt (Act.f .relu) (Act.df .relu x) x := by
  convert hasDerivAt_kink 0 hx using 1
  · funext y
    rw [relu_def, zero_mul]
    split
    · exact max_eq_left ‹0 < y›.le
    · exact max_eq_right (not_lt.mp ‹_›)
  · simp [Act.df]

/-- at the kink the code returns 0 (ReLU) and the slope 0.01 (leaky ReLU) -/
theorem relu_backward_at_zero : Act.df .relu (0 : ℝ) = 0 := by simp [Act.df]
theorem leaky_backward_at_zero : Act.df .leaky (0 : ℝ) = 1 / 100 := by simp [Act.df, alpha_def]

theorem leaky_hasDerivAt (x : ℝ) (hx : x ≠ 0) : HasDerivAt (Act.f .leaky) (Act.df .leaky x) x := by
  convert hasDerivAt_kink (1 / 100) hx using 1
  · funext y; exact leaky_def y
  · simp [Act.df, alpha_def]

theorem sigmoid_hasDerivAt (x : ℝ) : HasDerivAt (Act.f .sigmoid) (Act.df .sigmoid x) x := by
  have hpos : (1 : ℝ) + Real.exp (-x) ≠ 0 := by positivity
  rw [show Act.f .sigmoid = fun v : ℝ => (1 + Real.exp (-v))⁻¹ from funext fun v => one_div _]
  refine (((hasDerivAt_neg x).exp.const_add 1).fun_inv hpos).congr_deriv ?_
  simp only [Act.df, Act.sigmoidS, exp_eq]; field_simp; ring

theorem tanh_hasDerivAt (x : ℝ) : HasDerivAt (Act.f .tanh) (Act.df .tanh x) x := by
  rw [show Act.f .tanh = fun y : ℝ => Real.sinh y / Real.cosh y from funext Real.tanh_eq_sinh_div_cosh]
  refine ((Real.hasDerivAt_sinh x).fun_div (Real.hasDerivAt_cosh x) (Real.cosh_pos x).ne').congr_deriv ?_
  rw [← _root_.sq, ← _root_.sq, Real.cosh_sq_sub_sinh_sq]
  simp only [Act.df, cosh_eq, sq_eq]

theorem linear_hasDerivAt (x : ℝ) : HasDerivAt (Act.f .linear) (Act.df .linear x) x :=
  hasDerivAt_id x

theorem sigmoid_range (x : ℝ) : 0 < Act.f .sigmoid x ∧ Act.f .sigmoid x < 1 := by
  rw [sigmoid_def]
  have h : 0 < Real.exp (-x) := Real.exp_pos _
  constructor
  · positivity
  · rw [div_lt_one (by positivity)]; linarith

theorem tanh_range (x : ℝ) : -1 < Act.f .tanh x ∧ Act.f .tanh x < 1 :=
  ⟨Real.neg_one_lt_tanh x, Real.tanh_lt_one x⟩

theorem sigmoid_backward_range (x : ℝ) : 0 < Act.df .sigmoid x ∧ Act.df .sigmoid x ≤ 1 / 4 := by
  have ⟨h0, h1⟩ := sigmoid_range x
  simp only [Act.f] at h0 h1
  simp only [Act.df]
  refine ⟨mul_pos h0 (sub_pos.mpr h1), ?_⟩
  rw [show sigmoidS x * (1 - sigmoidS x) = 1 / 4 - (sigmoidS x - 1 / 2) ^ 2 by ring]
  exact sub_le_self _ (sq_nonneg _)

/-! ### shape: both rank copies apply the function to every element and keep the shape -/

variable {α : Type} [Scalar α]

set_option linter.unusedSectionVars false in
theorem mapAct_single (g : α → α) (d : V1 α) :
    Act.mapAct g (⟨.single d.length, .single d⟩ : Tensor α) = .ok ⟨.single d.length, .single (d.map g)⟩ := rfl

omit [Scalar α] in
/-- `c, h ≥ 1` (and any `w`): the result's shape is read off `data[0][0]` (`L.dims3_cons`) -/
theorem mapAct_triple_eq (g : α → α) {c h w : Nat} {d : V3 α} (hd : L.Dims3 d c h w) (hc : 0 < c) (hh : 0 < h) :
    Act.mapAct g (⟨.triple c h w, .triple d⟩ : Tensor α) = .ok ⟨.triple c h w, .triple (L.map3 g d)⟩ := by
  obtain ⟨r, m, rest, rfl, h1, h2⟩ := L.dims3_cons hd hc hh
  simp only [Act.mapAct, hd.1, h1, h2]

/-- the element-wise activations are `mapAct` of their scalar function; not `.linear`, whose `forward` hands its argument
    back as it is (any rank, recorded shape kept) while `mapAct` rebuilds the shape from the data and knows ranks 1 and 3 only -/
theorem forward_eq_mapAct (a : Act) (ha : a ≠ .softmax) (ha' : a ≠ .linear) (t : Tensor α) :
    a.forward t = Act.mapAct (Act.f a) t := by
  cases a <;> first | rfl | contradiction

/-- the 3-D copy and the flat copy compute the same values (rank-independence of the element-wise
    activations): forward on the flattening = flattening of forward -/
theorem triple_eq_single (a : Act) (ha : a ≠ .softmax) (ha' : a ≠ .linear) (c h w : Nat) (d : V3 α)
    (hd : L.Dims3 d c h w) (hc : 0 < c) (hh : 0 < h) :
    ∃ r3 r1, a.forward (⟨.triple c h w, .triple d⟩ : Tensor α) = .ok r3 ∧
      a.forward (Tensor.single (L.flatten3 d)) = .ok r1 ∧ r3.flat = r1.flat := by
  simp only [forward_eq_mapAct a ha ha']
  exact ⟨_, _, mapAct_triple_eq (Act.f a) hd hc hh, rfl, L.map3_flat _ d⟩

theorem sum_exp_shift (x : List ℝ) (c : ℝ) :
    (x.map (fun v => Real.exp (v + c))).sum = Real.exp c * (x.map Real.exp).sum := by
  simp only [Real.exp_add, mul_comm _ (Real.exp c), List.sum_map_mul_left]

theorem exp_shift_div (v c S : ℝ) : Real.exp (v + c) / (Real.exp c * S) = Real.exp v / S := by
  rw [Real.exp_add, mul_comm (Real.exp c), mul_div_mul_right _ _ (Real.exp_pos c).ne']

theorem sum_exp_pos (x : List ℝ) (hx : x ≠ []) : 0 < (x.map Real.exp).sum :=
  List.sum_pos _ (fun v hv => by obtain ⟨a, _, rfl⟩ := List.mem_map.mp hv; exact Real.exp_pos a) (by simpa using hx)

/-- the model's max-subtracted soft-max equals the mathematical `exp xᵢ / Σⱼ exp xⱼ`, whatever the
    value subtracted — in particular shift by the maximum changes nothing -/
theorem softmax_eq_math (x : List ℝ) :
    Act.softmaxL x = x.map (fun v => Real.exp v / (x.map Real.exp).sum) := by
  unfold Act.softmaxL
  simp only [exp_eq]
  generalize x.foldl Scalar.fmax Scalar.negInf = mx
  rw [← List.sum_eq_foldl, List.map_map]
  simp only [sub_eq_add_neg, sum_exp_shift]
  exact List.map_congr_left fun v _ => exp_shift_div v (-mx) _

theorem softmax_pos (x : List ℝ) (hx : x ≠ []) : ∀ p ∈ Act.softmaxL x, 0 < p := by
  rw [softmax_eq_math]
  intro p hp
  obtain ⟨v, _, rfl⟩ := List.mem_map.mp hp
  exact div_pos (Real.exp_pos v) (sum_exp_pos x hx)

theorem softmax_sum_one (x : List ℝ) (hx : x ≠ []) : (Act.softmaxL x).sum = 1 := by
  rw [softmax_eq_math]
  simp only [div_eq_mul_inv, List.sum_map_mul_right]
  exact mul_inv_cancel₀ (sum_exp_pos x hx).ne'

theorem softmax_length (x : List ℝ) : (Act.softmaxL x).length = x.length := by
  rw [softmax_eq_math]; simp

/-- adding a constant to every input does not change the output -/
theorem softmax_shift_invariant (x : List ℝ) (c : ℝ) :
    Act.softmaxL (x.map (· + c)) = Act.softmaxL x := by
  simp only [softmax_eq_math, List.map_map, Function.comp_def, sum_exp_shift]
  exact List.map_congr_left fun v _ => exp_shift_div v c _

/-- the denominator the code divides by is positive, so no division by zero for any real input -/
theorem softmax_denominator_pos (x : List ℝ) (hx : x ≠ []) (mx : ℝ) :
    0 < (x.map (fun v => Real.exp (v - mx))).foldl (· + ·) 0 := by
  rw [← List.sum_eq_foldl]
  simp only [sub_eq_add_neg, sum_exp_shift]
  exact mul_pos (Real.exp_pos _) (sum_exp_pos x hx)

/-! non-vacuity -/
example : Act.f .relu (2 : ℝ) = 2 := by rw [relu_def]; norm_num
example : Act.f .leaky (-2 : ℝ) = -(1 / 50) := by rw [leaky_def]; norm_num
example : (2 : ℝ) ≠ 0 := by norm_num

end C07
