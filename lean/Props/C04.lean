import Model.Train
import Proofs.Chunks
import Props.C13

/-!
# C04 — training is ordered mini-batch gradient-sum descent

About `Network.epochStep`, `Network.trainBatch`, `Network.accumulateBatch`, `L.chunks`
(`Model/Train.lean`), for every scalar type, network, optimizer, objective, `N`, `B ≥ 1`, `E`.
-/

namespace C04
open Network Scalar

variable {α : Type} [Scalar α]

/-! ### the groups: consecutive, in order, every sample exactly once, the last may be smaller -/

theorem groups_cover_in_order {β : Type} (B : Nat) (hB : 0 < B) (samples : List β) :
    (L.chunks B samples).flatten = samples := L.chunks_flatten B hB samples

theorem groups_sizes {β : Type} (B : Nat) (hB : 0 < B) (samples : List β) :
    (∀ c ∈ L.chunks B samples, 0 < c.length ∧ c.length ≤ B) ∧
    (∀ c ∈ (L.chunks B samples).dropLast, c.length = B) ∧
    (L.chunks B samples).length = (samples.length + B - 1) / B :=
  ⟨L.chunks_bounds B hB samples, L.chunks_full B hB samples, L.chunks_count B hB samples⟩

/-- `B > N`: a single group holding all samples -/
theorem one_group_when_batch_exceeds {β : Type} (B : Nat) (samples : List β) (h : samples.length ≤ B) (hne : samples ≠ []) :
    L.chunks B samples = [samples] := by
  cases samples with
  | nil => exact absurd rfl hne
  | cons x xs =>
    have hd : List.drop B (x :: xs) = [] := List.drop_eq_nil_of_le h
    have ht : List.take B (x :: xs) = x :: xs := List.take_of_length_le h
    simp only [L.chunks, L.chunksAux, List.length_cons]
    rw [hd, ht]
    cases xs <;> simp [L.chunksAux]

/-- **which samples form group `g`**: group `g` (0-based) is exactly the window of samples
    `g·B, g·B + 1, …` of length `B` (shorter only where the data ends), and there is a group `g` exactly
    while `g·B < N` — in particular the last group holds the remaining `N − g·B` samples -/
theorem group_is_window {β : Type} (B : Nat) (hB : 0 < B) (samples : List β) (g : Nat) :
    (L.chunks B samples)[g]? = if g * B < samples.length then some ((samples.drop (g * B)).take B) else none :=
  L.chunks_getElem? B hB samples g

/-- sample `g·B + j` (`j < B`) is member `j` of group `g` -/
theorem sample_in_its_group {β : Type} (B : Nat) (hB : 0 < B) (samples : List β) (g j : Nat) (hj : j < B)
    (h : g * B + j < samples.length) :
    ((L.chunks B samples)[g]?).bind (·[j]?) = samples[g * B + j]? := by
  have hg : g * B < samples.length := Nat.lt_of_le_of_lt (Nat.le_add_right _ j) h
  rw [group_is_window B hB samples g, if_pos hg]
  simp only [Option.bind_some, List.getElem?_take, hj, if_true, List.getElem?_drop]

/-- the size of group `g`: `B`, or what is left of the data -/
theorem group_size {β : Type} (B : Nat) (hB : 0 < B) (samples : List β) (g : Nat) (c : List β)
    (h : (L.chunks B samples)[g]? = some c) : c.length = min B (samples.length - g * B) :=
  (L.chunks_getElem?_some B hB samples h).2

example : ((L.chunks 2 [10, 11, 12, 13, 14])[2]?).bind (·[0]?) = [10, 11, 12, 13, 14][2 * 2 + 0]? := by decide

/-! non-vacuity: 5 samples in groups of 2 → [2, 2, 1] -/
example : L.chunks 2 [1, 2, 3, 4, 5] = [[1, 2], [3, 4], [5]] := by decide
example : L.chunks 7 [1, 2, 3] = [[1, 2, 3]] := by decide

/-! ### one group = one optimizer step on the gradient sum at the weights held before the step -/

/-- `trainBatch` unfolds to: per-sample gradients *all evaluated at the incoming network `n`*, their
    in-order accumulation, and exactly one `update` with step number = the epoch index; the reported
    value is the mean per-sample loss of the group -/
theorem trainBatch_spec (n n' : Network α) (epoch : Nat) (batch : List (Tensor α × Tensor α)) (m : α)
    (h : n.trainBatch epoch batch = .ok (n', m)) :
    ∃ results ws bs losses,
      L.mapM' (fun s => match n.sampleGradients s.1 s.2 with
        | .ok (w, b, l, _) => Except.ok (w, b, l)
        | .error e => .error e) batch = .ok results ∧
      accumulateBatch results = .ok (ws, bs, losses) ∧
      n.update epoch ws bs = .ok n' ∧
      m = Tensor.sumL losses / ofNat' losses.length := by
  unfold trainBatch at h
  split at h
  · cases h
  · rename_i results hr
    split at h
    · cases h
    · rename_i ws bs losses ha
      simp only [] at h
      split at h
      · cases h
      · rename_i n2 hu
        cases h
        exact ⟨results, ws, bs, losses, hr, ha, hu, rfl⟩

/-- the accumulation is the running **sum** (not the mean): the first sample's gradients, then
    `add` of each later sample's, in sample order; one loss per sample -/
theorem accumulate_first (w : List (WGrad α)) (b : List (BGrad α)) (l : α) (hn : isNaN l = false) :
    accumulateBatch [(w, b, l)] = .ok (w, b, [l]) := by
  simp [accumulateBatch, hn]

theorem accumulate_nan_aborts (rs : List (List (WGrad α) × List (BGrad α) × α)) (w : List (WGrad α)) (b : List (BGrad α)) (l : α)
    (hn : isNaN l = true) : accumulateBatch ((w, b, l) :: rs) = .error .nan := by
  unfold accumulateBatch
  simp only [List.foldl_cons, hn, if_true]
  exact L.foldl_error fun _ _ => rfl

/-! ### the epoch: groups in order, training loss = mean over groups of the group means -/

def epochFold (epoch : Nat) (batches : List (List (Tensor α) × List (Tensor α))) (n : Network α) :
    Except Err (Network α × α) :=
  batches.foldl (fun (st : Except Err (Network α × α)) b =>
    match st with
    | .error e => .error e
    | .ok (n, lossEpoch) =>
      match n.trainBatch epoch (b.1.zip b.2) with
      | .error e => .error e
      | .ok (n', m) => .ok (n', lossEpoch + m)) (.ok (n, 0))

/-- `epochStep` = fold `trainBatch` (step number = `epoch`) over the consecutive groups of `B` inputs
    zipped with the groups of `B` targets, then push `Σ group means / #groups`.  Stated without validation data; with it
    `epochStep` goes on to one `validate` call (`C13.epochStep_lengths`). -/
theorem epochStep_spec (inputs targets : List (Tensor α)) (B : Nat) (script : List α) (epoch : Nat)
    (r r' : LearnResult α)
    (h : epochStep inputs targets none B script epoch r = .ok r') :
    ∃ n lossEpoch, epochFold epoch (List.zip (L.chunks B inputs) (L.chunks B targets)) r.net = .ok (n, lossEpoch) ∧
      r'.net = n ∧
      r'.trainLoss = r.trainLoss ++ [lossEpoch / ofNat' (List.zip (L.chunks B inputs) (L.chunks B targets)).length] := by
  unfold epochStep at h
  simp only [] at h
  split at h
  · cases h
  · rename_i n lossEpoch hrun
    cases h
    exact ⟨n, lossEpoch, hrun, rfl, rfl⟩

/-- **training for `E` epochs** (no validation data, so nothing can stop the run early): `learn` is exactly the walk
    `epochStep 1, epochStep 2, …, epochStep E` — epoch `e` is one `epochStep` with step number `e` (`epochStep_spec`: its
    groups in order, one optimizer step per group on the group's gradient sum at the weights held before the step) started
    from the result of epoch `e − 1`; the first starts from the given network with the training flags on and an empty
    loss history, and the flags are cleared at the end.  Hence one training-loss entry per epoch, `E` in all. -/
theorem learn_is_the_epoch_walk (n : Network α) (inputs targets : List (Tensor α)) (B E : Nat) (script : List α)
    (res : LearnResult α) (h : n.learn inputs targets none B E script = .ok res) :
    0 < B ∧ ∃ r, C13.runK (epochStep inputs targets none B script) E 1
        { net := n.setAllTraining true, trainLoss := [], valLoss := [], valAcc := [] } = .ok r ∧
      res = { r with net := r.net.setAllTraining false } ∧ res.trainLoss.length = E := by
  obtain ⟨hB, r, hr, rfl⟩ := C13.learn_ok h
  -- without validation data the stop test of `learnLoop` is constantly `false` (by reduction)
  have hr := (C13.epochLoop_never_stops (epochStep inputs targets none B script) E 1 _).symm.trans hr
  exact ⟨Nat.pos_of_ne_zero hB, r, hr, rfl,
    (C13.runK_lengths inputs targets none B script E 1 _ r hr).1.trans (Nat.zero_add E)⟩

end C04
