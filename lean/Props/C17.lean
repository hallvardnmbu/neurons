import Model.Network
import Proofs.Loop
import Props.C14

/-!
# C17 — loop connections compute the accumulated repeated sub-network

About `Network.addLoopback` (`Network::loopback`) and `Network.applyLoopback` (the loop block of
`Network::forward`).  `LoopSpec.loopOutputs step k o₀` is the list `o₁ … o_k` with
`o_{t+1} = output of the range a..b on prep(o_t)`, where `prep` reshapes to the input shape of layer
`a` and adds the original input of layer `a` when input skips are on (`loopStep`).

`loopback_value`: for every network, range, `k`, accumulation, skip flag and trace, the value passed
on after layer `b` is `loopCombine acc o₀ [o₁ … o_k]` — the configured accumulation of the `k+1`
successive outputs.  With overwrite it is `o_k`, the `k`-fold iterate, which is the plain network with
the range repeated `k+1` times (`unrolled_range`).
-/

namespace C17
open Network Scalar LoopSpec

variable {α : Type} [Scalar α]

theorem loopback_rejects_backward_range (n : Network α) (outof into k : Nat) (sc : α → α) (isk : Bool)
    (h : outof < into) : n.addLoopback outof into k sc isk = .error .reject := by
  simp [addLoopback, h]

theorem loopback_rejects_bad_index (n : Network α) (outof into k : Nat) (sc : α → α) (isk : Bool)
    (h : into ≥ n.layers.length) : n.addLoopback outof into k sc isk = .error .reject := by
  simp [addLoopback, h]

theorem loopback_rejects_second_loop (n : Network α) (outof into k : Nat) (sc : α → α) (isk : Bool) (e : Nat × Nat × Bool)
    (hv : ¬ (outof > n.layers.length ∨ into ≥ n.layers.length ∨ outof < into))
    (h : Assoc.find? n.loopbacks outof = some e) : n.addLoopback outof into k sc isk = .error .reject := by
  simp [addLoopback, hv, h]

/-- the output shape of layer `b` must be the input shape of layer `a` -/
theorem loopback_rejects_shape_mismatch (n : Network α) (outof into k : Nat) (sc : α → α) (isk : Bool) (li lo : Layer α)
    (hv : ¬ (outof > n.layers.length ∨ into ≥ n.layers.length ∨ outof < into))
    (hfree : Assoc.find? n.loopbacks outof = none)
    (h1 : L.get n.layers into = .ok li) (h2 : L.get n.layers outof = .ok lo) (hs : li.inputs ≠ lo.outputs) :
    n.addLoopback outof into k sc isk = .error .shape := by
  simp [addLoopback, hv, hfree, h1, h2, hs]

/-! ### the value passed on -/

/-- the layers `into … i`, cut out the way `applyLoopback` does -/
def rangeOf (n : Network α) (into i : Nat) : List (Layer α) := (n.layers.drop into).take (i + 1 - into)

omit [Scalar α] in
theorem rangeOf_length (n : Network α) (into i : Nat) (h2 : i < n.layers.length) :
    (rangeOf n into i).length = i + 1 - into := by
  rw [rangeOf, List.length_take, List.length_drop, Nat.min_eq_left (Nat.sub_le_sub_right h2 into)]

theorem applyLoopback_ok (n : Network α) (i into k : Nat) (inskips : Bool) (t t' : Trace α)
    (h : applyLoopback n i into k inskips t = .ok t') :
    ∃ last lin actInto fp fq fr fin, t.act.getLast? = some last ∧ L.get n.layers into = .ok lin ∧
      L.get t.act into = .ok actInto ∧
      loopRuns (loopStep (rangeOf n into i) lin.inputs inskips actInto) k last = .ok (fp, fq, fr, fin) ∧
      (List.zip (List.range (i + 1 - into)) ((List.range (i + 1 - into)).map (· + into))).foldl
        (loopMerge n fp fq fr) (.ok t) = .ok t' := by
  unfold applyLoopback at h
  split at h
  · rename_i last lin _ actInto hl h1 _ h3
    simp only [] at h
    split at h
    · cases h
    · rename_i fp fq fr fin hA
      exact ⟨last, lin, actInto, fp, fq, fr, fin, hl, h1, h3, hA, h⟩
  · cases h

/-- **C17.** after the loop block of layer `b = i` (looping back into `a = into` for `k` iterations)
    the value passed on is the configured accumulation of the `k+1` successive outputs.  (`hact`: when that
    block runs, the trace holds the network input and the outputs of layers `0 … i`.) -/
theorem loopback_value (n : Network α) (i into k : Nat) (inskips : Bool) (t t' : Trace α)
    (hinto : into ≤ i) (hi : i < n.layers.length) (hact : t.act.length = i + 2)
    (h : applyLoopback n i into k inskips t = .ok t') :
    ∃ o0 lin actInto outs v,
      L.get t.act (i + 1) = .ok o0 ∧ L.get n.layers into = .ok lin ∧ L.get t.act into = .ok actInto ∧
      loopOutputs (loopStep (rangeOf n into i) lin.inputs inskips actInto) k o0 = .ok outs ∧ outs.length = k ∧
      loopCombine n.loopaccumulation o0 outs = .ok v ∧
      L.get t'.act (i + 1) = .ok v ∧ t'.act.getLast? = some v ∧ t'.act.length = i + 2 := by
  -- the range has `m + 1` layers, the last of them layer `i`
  obtain ⟨m, hm, hmi⟩ : ∃ m, i + 1 - into = m + 1 ∧ m + into = i := ⟨i - into, Nat.succ_sub hinto, Nat.sub_add_cancel hinto⟩
  have hrl : (rangeOf n into i).length = m + 1 := hm ▸ rangeOf_length n into i hi
  have hne : rangeOf n into i ≠ [] := List.ne_nil_of_length_eq_add_one hrl
  have hlast : i + 1 + 1 = t.act.length := hact.symm
  obtain ⟨last, lin, actInto, fpres, fposts, frecs, fin, hl, h1, h3, hA, h⟩ := applyLoopback_ok n i into k inskips t t' h
  -- the first output is the last activation
  have ho0 : L.get t.act (i + 1) = .ok last := (L.get_last_iff hlast).mpr hl
  have hrel := loopRuns_outputs (loopStep (rangeOf n into i) lin.inputs inskips actInto)
    (fun q => L.get q ((rangeOf n into i).length - 1))
    (fun cur p q r out hs => loopStep_sel _ hne _ _ _ _ p q r out hs) k last
  rw [hA] at hrel
  cases hB : loopOutputs (loopStep (rangeOf n into i) lin.inputs inskips actInto) k last with
  | error e => rw [hB] at hrel; exact hrel.elim
  | ok outs =>
    rw [hB] at hrel
    obtain ⟨hsel, _, _, _, hlen, _⟩ := hrel
    -- the merge writes position `i + 1` once, at the last layer of the range
    rw [hm] at h
    obtain ⟨qs, aj, aj', hq, haj, hcomb, hget, hlen'⟩ := mergeFold_last n fpres fposts frecs m into t t' h
    rw [hmi] at haj hget
    rw [hrl, Nat.add_sub_cancel] at hsel
    -- the merge read the same entries of the runs (`hsel`, `hq`) and the same first output (`ho0`, `haj`)
    cases hsel.symm.trans hq
    cases ho0.symm.trans haj
    exact ⟨_, lin, actInto, outs, aj', ho0, h1, h3, hB, hlen, hcomb, hget,
      (L.get_last_iff (hlen' ▸ hlast)).mp hget, hlen'.trans hact⟩

/-! ### reading the specification -/

/-- the five accumulations of the first output `x` with the outputs `ys` of the `k` iterations -/
theorem combine_add (x : Tensor α) (ys : List (Tensor α)) :
    loopCombine .add x ys = ys.foldl (fun r y => match r with | .ok t => t.add y | .error e => .error e) (.ok x) := rfl
theorem combine_subtract (x : Tensor α) (ys : List (Tensor α)) :
    loopCombine .subtract x ys = ys.foldl (fun r y => match r with | .ok t => t.sub y | .error e => .error e) (.ok x) := rfl
theorem combine_multiply (x : Tensor α) (ys : List (Tensor α)) :
    loopCombine .multiply x ys = ys.foldl (fun r y => match r with | .ok t => t.mul y | .error e => .error e) (.ok x) := rfl
theorem combine_mean (x : Tensor α) (ys : List (Tensor α)) : loopCombine .mean x ys = x.mean ys := rfl
theorem combine_overwrite (x y : Tensor α) (ys : List (Tensor α)) : loopCombine .overwrite x (ys ++ [y]) = .ok y := by
  simp [loopCombine]

/-- what one iteration runs the range on: the previous output, reshaped to the input shape of layer
    `a` if it differs (a flattened output looping into a spatial layer), plus the original input of
    layer `a` when input skips are on -/
def prep (s : Shape) (inskips : Bool) (actInto cur : Tensor α) : Except Err (Tensor α) :=
  match (if cur.shape ≠ s then Tensor.reshape cur s else .ok cur) with
  | .error e => .error e
  | .ok c => if inskips then c.add actInto else .ok c

def stepOut {P Q R : Type} (step : Tensor α → Except Err (P × Q × R × Tensor α)) (c : Tensor α) : Except Err (Tensor α) :=
  match step c with
  | .error e => .error e
  | .ok (_, _, _, out) => .ok out

/-- without input skips and with matching shape an iteration is just the range -/
theorem prep_plain (s : Shape) (actInto cur : Tensor α) (h : cur.shape = s) : prep s false actInto cur = .ok cur := by
  simp [prep, h]

def iter (f : Tensor α → Except Err (Tensor α)) : Nat → Tensor α → Except Err (Tensor α)
  | 0, x => .ok x
  | k + 1, x => match f x with
    | .error e => .error e
    | .ok y => iter f k y

/-- **with overwrite the value passed on is the `k`-th iterate** of "range ∘ prep" on the first
    output: the last of the successive outputs -/
theorem overwrite_is_iterate {P Q R : Type} (step : Tensor α → Except Err (P × Q × R × Tensor α)) :
    ∀ (k : Nat) (o0 : Tensor α),
    (match loopOutputs step k o0 with
     | .error e => .error e
     | .ok outs => loopCombine .overwrite o0 outs) =
      iter (stepOut step) k o0 := by
  intro k
  induction k with
  | zero => intro o0; simp [loopOutputs, loopCombine, iter]
  | succ k ih =>
    intro o0
    simp only [loopOutputs, iter, stepOut]
    cases hs : step o0 with
    | error e => simp
    | ok r =>
      obtain ⟨p, q, r, out⟩ := r
      simp only []
      rw [← ih out]
      cases loopOutputs step k out with
      | error e => rfl
      | ok os =>
        simp only [loopCombine, List.getLast?_cons]
        cases os.getLast? <;> rfl

/-! ### the plain network with the range repeated

`rangeFinal ls x`, what the plain layer list `ls` computes on `x`, is defined in Proofs/Loop.lean. -/

/-- one run of a non-empty range puts out what the range threads on the prepared input: the threaded value is the last
    recorded activation -/
theorem loopStep_out (range : List (Layer α)) (hne : range ≠ []) (s : Shape) (inskips : Bool) (actInto cur : Tensor α) :
    stepOut (loopStep range s inskips actInto) cur =
      match prep s inskips actInto cur with
      | .error e => .error e
      | .ok c => rangeFinal range c := by
  simp only [stepOut, loopStep, prep, rangeFinal, runRange, finalOf]
  cases (if cur.shape ≠ s then Tensor.reshape cur s else Except.ok cur) with
  | error e => rfl
  | ok c =>
    simp only []
    cases (if inskips = true then c.add actInto else Except.ok c) with
    | error e => rfl
    | ok c2 =>
      simp only []
      cases hf : range.foldl rangeStep (.ok ([], [], [], c2)) with
      | error e => rfl
      | ok st => simp only [(rangeFold_spec range _ _ _ _ _ _ _ _ hf).2 hne]

theorem rangeFinal_append (l1 l2 : List (Layer α)) (x : Tensor α) :
    rangeFinal (l1 ++ l2) x = match rangeFinal l1 x with
      | .error e => .error e
      | .ok y => rangeFinal l2 y := by
  simp only [rangeFinal, List.foldl_append]
  cases l1.foldl rangeStep (.ok ([], [], [], x)) with
  | error e => simp only [rangeFold_error, finalOf]
  | ok st =>
    -- the fold over `l2` only appends to what `l1` recorded: it threads the same value as from a fresh start
    obtain ⟨a, b, c, d⟩ := st
    simp only [finalOf]
    rw [rangeFold_prefix]
    cases l2.foldl rangeStep (.ok ([], [], [], d)) <;> rfl

/-- **the plain network in which the range is repeated `k+1` times (shared weights) computes the
    `k`-th iterate of the range on the range's first output** — which, by `overwrite_is_iterate`,
    `loopStep_out` and `prep_plain`, is the value a loop connection with overwrite accumulation and
    no input skips passes on (as long as the shapes agree, so that no reshape is inserted) -/
theorem unrolled_range (range : List (Layer α)) : ∀ (k : Nat) (x : Tensor α),
    rangeFinal ((List.replicate (k + 1) range).flatten) x =
      match rangeFinal range x with
      | .error e => .error e
      | .ok o0 => iter (rangeFinal range) k o0 := by
  intro k
  induction k with
  | zero =>
    intro x
    simp only [List.replicate, List.flatten_cons, List.flatten_nil, List.append_nil, iter]
    cases rangeFinal range x <;> rfl
  | succ k ih =>
    intro x
    rw [List.replicate_succ, List.flatten_cons, rangeFinal_append]
    cases rangeFinal range x with
    | error e => rfl
    | ok o0 =>
      simp only []
      rw [ih o0]
      simp only [iter]

omit [Scalar α] in
theorem iter_congr (f g : Tensor α → Except Err (Tensor α)) (I : Tensor α → Prop)
    (hfg : ∀ c, I c → f c = g c) (hinv : ∀ c y, I c → g c = .ok y → I y) (k : Nat) (c : Tensor α) (hc : I c) :
    iter f k c = iter g k c := by
  induction k generalizing c with
  | zero => rfl
  | succ k ih =>
    simp only [iter, hfg c hc]
    cases hg : g c with
    | error e => rfl
    | ok y => exact ih y (hinv c y hc hg)

/-- **C17, overwrite clause.** if the range maps tensors of the input shape `s` of layer `a` to
    tensors of shape `s` (what `loopback` validates), then with overwrite accumulation and no input
    skips the loop's successive outputs end in exactly what the plain network with the range repeated
    `k+1` times computes on the range's input `x` -/
theorem overwrite_loop_is_unrolled (range : List (Layer α)) (hne : range ≠ []) (s : Shape) (actInto x : Tensor α) (k : Nat)
    (hshape : ∀ c y, rangeFinal range c = .ok y → y.shape = s) :
    (match rangeFinal range x with
     | .error e => .error e
     | .ok o0 =>
       match loopOutputs (loopStep range s false actInto) k o0 with
       | .error e => .error e
       | .ok outs => loopCombine .overwrite o0 outs) =
    rangeFinal ((List.replicate (k + 1) range).flatten) x := by
  rw [unrolled_range]
  cases h0 : rangeFinal range x with
  | error e => rfl
  | ok o0 =>
    simp only []
    rw [overwrite_is_iterate]
    apply iter_congr _ _ (fun c => c.shape = s)
    · intro c hc
      rw [loopStep_out range hne, prep_plain s actInto c hc]
    · intro c y _ hy
      exact hshape c y hy
    · exact hshape x o0 h0

/-! ### the re-entry of a flattened output (a range that ends in a spatial layer in front of a dense layer) -/

/-- **a flattened output re-enters a spatial layer `a` re-folded row-major**: when the range ends in a spatial layer in front of a
    dense layer (its output is the flat vector `v`) and layer `a` reads `c × h × w` maps, the next iteration runs on the
    tensor of shape `c × h × w` whose row-major sequence is exactly `v` — for every `c`, `h`, `w` (any number of channels and
    columns), plus the original input when input skips are on -/
theorem prep_refolds_row_major (c h w : Nat) (v : V1 α) (hv : v.length = c * h * w) (actInto : Tensor α) :
    ∃ r, prep (.triple c h w) false actInto (⟨.single v.length, .single v⟩ : Tensor α) = .ok r ∧
      r.shape = .triple c h w ∧ r.Wf ∧ r.flat = v := by
  obtain ⟨r, hr, hs, hw, hf⟩ := C14.reshape_vec_to_3d c h w v hv
  refine ⟨r, ?_, hs, hw, hf⟩
  simp [prep, hr]

theorem prep_refolds_then_adds (c h w : Nat) (v : V1 α) (hv : v.length = c * h * w) (actInto : Tensor α) :
    ∃ r, (⟨.single v.length, .single v⟩ : Tensor α).reshape (.triple c h w) = .ok r ∧ r.flat = v ∧
      prep (.triple c h w) true actInto (⟨.single v.length, .single v⟩ : Tensor α) = r.add actInto := by
  obtain ⟨r, hr, _, _, hf⟩ := C14.reshape_vec_to_3d c h w v hv
  refine ⟨r, hr, hf, ?_⟩
  simp [prep, hr]

end C17
