-- every proof module, so that `lake build` checks the whole development
import Proofs.Adjoint
import Proofs.Box
import Proofs.Chain
import Proofs.ChainBlock
import Proofs.ChainLinks
import Proofs.Chunks
import Proofs.ConvAdjoint
import Proofs.ConvBridge
import Proofs.ConvVJP
import Proofs.DeconvAdjoint
import Proofs.DeconvBridge
import Proofs.DeconvVJP
import Proofs.DenseBlock
import Proofs.DenseBridge
import Proofs.DenseStack
import Proofs.DenseVJP
import Proofs.Dims
import Proofs.Feedback
import Proofs.Flat3
import Proofs.Folds
import Proofs.Basics
import Proofs.Loop
import Proofs.MaxpoolForward
import Proofs.MaxpoolBridge
import Proofs.MaxpoolLocal
import Proofs.MaxpoolVJP
import Proofs.MeanG
import Proofs.NoDropout
import Proofs.Encodings
import Proofs.OptimizerLemmas
import Proofs.ParamCount
import Proofs.Real
import Proofs.Rechunk
import Proofs.Reshape
import Proofs.Scatter
import Proofs.SkipDag
import Proofs.SkipDagP
import Proofs.SkipLinks
import Proofs.SkipMLP
import Proofs.SkipNet
import Proofs.SkipPad
import Proofs.SkipReshape
import Proofs.SkipTable
import Proofs.SkipTyped
import Proofs.SkipWalk
import Proofs.SoftmaxCE
import Proofs.TensorWf
import Proofs.VJP
import Proofs.Walk
import Proofs.Zip
