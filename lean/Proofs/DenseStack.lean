import Proofs.DenseBridge
import Props.C07

/-!
# A stack of dense layers of any depth and widths: as model layers (`Stack.layers`), as a `VJP.Net` with its
reverse-mode functions (`Stack.net`), and the pre-activations and activations a forward pass records on it

In front of it `NoKink` and `act_hasDerivAt`: every element-wise activation has the derivative the model uses
away from the kink of ReLU and leaky ReLU (the C07 facts in one statement); all layer kinds use these.  With them
`vjp_dense` and `vjp_dense_weights`: a dense layer's backward functions are its transposed Jacobians there.
-/

namespace DenseStack
open VJP DenseBridge Network Scalar RealScalar

def NoKink (a : Act) (z : ℝ) : Prop := (a = .relu ∨ a = .leaky) → z ≠ 0

theorem act_hasDerivAt (a : Act) (ha : a ≠ .softmax) (z : ℝ) (hz : NoKink a z) :
    HasDerivAt (Act.f a) (Act.df a z) z := by
  cases a with
  | relu => exact C07.relu_hasDerivAt z (hz (Or.inl rfl))
  | leaky => exact C07.leaky_hasDerivAt z (hz (Or.inr rfl))
  | sigmoid => exact C07.sigmoid_hasDerivAt z
  | tanh => exact C07.tanh_hasDerivAt z
  | linear => exact C07.linear_hasDerivAt z
  | softmax => exact absurd rfl ha

theorem vjp_dense {r c : ℕ} (a : Act) (W : V (Fin r × Fin c)) (b : Vec r) (ha : a ≠ .softmax) (x : Vec c)
    (hk : ∀ i, NoKink a (densePre W b x i)) :
    IsVJP (denseFn (Act.f a) W b) x (fun g => inputGrad W (delta (Act.df a) (densePre W b x) g)) :=
  dense_vjp_input (Act.f a) (Act.df a) W b x (fun i => act_hasDerivAt a ha _ (hk i))

theorem vjp_dense_weights {r c : ℕ} (a : Act) (W : V (Fin r × Fin c)) (b : Vec r) (ha : a ≠ .softmax) (x : Vec c)
    (hk : ∀ i, NoKink a (densePre W b x i)) :
    IsVJP (fun W' => denseFn (Act.f a) W' b x) W (fun g => weightGrad (delta (Act.df a) (densePre W b x) g) x) :=
  dense_vjp_weights (Act.f a) (Act.df a) W b x (fun i => act_hasDerivAt a ha _ (hk i))

inductive Stack : ℕ → ℕ → Type
  | nil (n : ℕ) : Stack n n
  | cons {n m k : ℕ} (a : Act) (W : V (Fin m × Fin n)) (b : Vec m) (rest : Stack m k) : Stack n k

/-- the model layer holding `W`, `b`, `a` (evaluation mode, outside any loop connection) -/
noncomputable def denseLayer {n m : ℕ} (a : Act) (W : V (Fin m × Fin n)) (b : Vec m) : DenseLayer ℝ :=
  { inputs := .single n, outputs := .single m, loops := 1, scale := fun x => 1 / x, weights := matT W,
    bias := some (vecT b), act := a, dropout := none, training := false }

theorem denseLayer_isDense {n m : ℕ} (a : Act) (W : V (Fin m × Fin n)) (b : Vec m) :
    IsDense (denseLayer a W b) a W b := ⟨rfl, rfl, rfl, rfl, by simp [denseLayer]⟩

noncomputable def Stack.layers : {n k : ℕ} → Stack n k → List (Layer ℝ)
  | _, _, .nil _ => []
  | _, _, .cons a W b rest => .dense (denseLayer a W b) :: rest.layers

noncomputable def Stack.net : {n k : ℕ} → Stack n k → Net n k
  | _, _, .nil n => .nil n
  | _, _, .cons a W b rest =>
    .cons (denseFn (Act.f a) W b) (fun x g => inputGrad W (delta (Act.df a) (densePre W b x) g)) rest.net

def Stack.Valid : {n k : ℕ} → Stack n k → Prop
  | _, _, .nil _ => True
  | n, _, @Stack.cons _ m _ a _ _ rest => a ≠ .softmax ∧ 0 < n ∧ 0 < m ∧ rest.Valid

def Stack.NoKinks : {n k : ℕ} → Stack n k → Vec n → Prop
  | _, _, .nil _, _ => True
  | _, _, .cons a W b rest, x => (∀ i, NoKink a (densePre W b x i)) ∧ rest.NoKinks (denseFn (Act.f a) W b x)

noncomputable def Stack.pres : {n k : ℕ} → Stack n k → Vec n → List (Tensor ℝ)
  | _, _, .nil _, _ => []
  | _, _, .cons a W b rest, x => vecT (densePre W b x) :: rest.pres (denseFn (Act.f a) W b x)

noncomputable def Stack.acts : {n k : ℕ} → Stack n k → Vec n → List (Tensor ℝ)
  | _, _, .nil _, _ => []
  | _, _, .cons a W b rest, x => vecT (denseFn (Act.f a) W b x) :: rest.acts (denseFn (Act.f a) W b x)

theorem Stack.net_ok {n k : ℕ} (s : Stack n k) (x : Vec n) (hv : s.Valid) (hk : s.NoKinks x) : s.net.Ok x := by
  induction s with
  | nil _ => trivial
  | cons a W b rest ih =>
    obtain ⟨ha, -, -, hrest⟩ := hv
    exact ⟨vjp_dense a W b ha x hk.1, ih _ hrest hk.2⟩

end DenseStack
