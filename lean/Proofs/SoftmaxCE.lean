import Proofs.VJP
import Mathlib.Analysis.SpecialFunctions.Log.Deriv
import Mathlib.Algebra.BigOperators.Field

/-!
# The gradient of the cross-entropy of the soft-max outputs with respect to the logits is `p − t`
-/

open BigOperators

namespace VJP

variable {n : ℕ}

noncomputable def expSum (z : Vec n) : ℝ := ∑ k, Real.exp (z k)
noncomputable def softmaxV (z : Vec n) : Vec n := fun i => Real.exp (z i) / expSum z
noncomputable def ceSoftmax (t : Vec n) (z : Vec n) : ℝ := -∑ i, t i * Real.log (softmaxV z i)

theorem expSum_pos [NeZero n] (z : Vec n) : 0 < expSum z :=
  Finset.sum_pos (fun k _ => Real.exp_pos (z k)) Finset.univ_nonempty

theorem ceSoftmax_eq [NeZero n] (t z : Vec n) :
    ceSoftmax t z = -(∑ i, t i * z i) + (∑ i, t i) * Real.log (expSum z) := by
  unfold ceSoftmax softmaxV
  have hS := expSum_pos z
  have : ∀ i, t i * Real.log (Real.exp (z i) / expSum z) = t i * z i - t i * Real.log (expSum z) := by
    intro i
    rw [Real.log_div (Real.exp_pos _).ne' hS.ne', Real.log_exp]; ring
  simp only [this, Finset.sum_sub_distrib, Finset.sum_mul]
  ring

theorem expSum_hasFDerivAt (z : Vec n) :
    HasFDerivAt (expSum (n := n))
      (∑ k, (Real.exp (z k)) • (ContinuousLinearMap.proj (R := ℝ) (φ := fun _ : Fin n => ℝ) k)) z := by
  unfold expSum
  apply HasFDerivAt.fun_sum
  intro k _
  exact (Real.hasDerivAt_exp (z k)).comp_hasFDerivAt z (hasFDerivAt_apply (𝕜 := ℝ) k z)

/-- **soft-max output layer under cross-entropy**: the gradient with respect to the logits is
    `(Σ t)·p − t`, i.e. `p − t` for a target distribution -/
theorem ceSoftmax_grad [NeZero n] (t z : Vec n) :
    IsGrad (ceSoftmax t) z (fun j => (∑ i, t i) * softmaxV z j - t j) := by
  have hS := expSum_pos z
  have hlin : HasFDerivAt (fun z : Vec n => ∑ i, t i * z i)
      (∑ i, (t i) • (ContinuousLinearMap.proj (R := ℝ) (φ := fun _ : Fin n => ℝ) i)) z := by
    apply HasFDerivAt.fun_sum
    intro i _
    exact (hasFDerivAt_apply (𝕜 := ℝ) i z).const_mul (t i)
  have hlog := (Real.hasDerivAt_log hS.ne').comp_hasFDerivAt z (expSum_hasFDerivAt z)
  have hall := (hlin.neg).add (hlog.const_mul (∑ i, t i))
  refine ⟨_, hall.congr_of_eventuallyEq (Filter.Eventually.of_forall (fun y => ceSoftmax_eq t y)), ?_⟩
  intro v
  simp only [dot, softmaxV, add_apply, neg_apply, smul_apply, sum_apply, ContinuousLinearMap.proj_apply, smul_eq_mul]
  have h1 : ∑ j, ((∑ i, t i) * (Real.exp (z j) / expSum z) - t j) * v j =
      (∑ i, t i) * ((expSum z)⁻¹ * ∑ k, Real.exp (z k) * v k) - ∑ j, t j * v j := by
    simp only [sub_mul, Finset.sum_sub_distrib, Finset.mul_sum]
    congr 1
    apply Finset.sum_congr rfl; intro j _
    rw [div_eq_mul_inv]; ring
  rw [h1]; ring

theorem softmaxV_sum [NeZero n] (z : Vec n) : ∑ i, softmaxV z i = 1 := by
  unfold softmaxV
  rw [← Finset.sum_div]
  exact div_self (expSum_pos z).ne'

end VJP
