import Model.Layers
import Proofs.Reshape
import Proofs.Chunks

/-!
# Re-chunking a row-major flat vector gives back the 3-D tensor (flat entry = spatial entry)
-/

namespace Rechunk

theorem rechunk_flatten3 {α : Type} [Scalar α] (t : V3 α) (c h w : Nat) (ht : L.Dims3 t c h w) (hh : 0 < h) (hw : 0 < w) :
    rechunk (L.flatten3 t) h w = t := by
  unfold rechunk L.flatten3
  rw [L.chunksExact_flatten (Nat.mul_pos hh hw) (L.dims2_map_flatten ht).2, List.map_map]
  have : ∀ m ∈ t, ((fun ch => L.chunksExact w ch) ∘ List.flatten) m = m :=
    fun m hm => L.chunksExact_flatten hw (ht.2 m hm).2
  rw [List.map_congr_left this, List.map_id']

/-- **flat entry = spatial entry**: a flat vector holding the row-major content of a `c × h × w` tensor
    enters a spatial layer (whose recorded input shape is `c × h × w`) as exactly that tensor -/
theorem entry_flat_eq_spatial {α : Type} [Scalar α] (t : V3 α) (c h w : Nat) (ht : L.Dims3 t c h w)
    (hc : 0 < c) (hh : 0 < h) (hw : 0 < w) (s1 s2 : Shape) :
    entry (⟨s1, .single (L.flatten3 t)⟩ : Tensor α) (.triple c h w) = entry (⟨s2, .triple t⟩ : Tensor α) (.triple c h w) := by
  unfold entry
  simp only []
  have hne : h * w ≠ 0 := Nat.pos_iff_ne_zero.mp (Nat.mul_pos hh hw)
  rw [if_neg hne, rechunk_flatten3 t c h w ht hh hw]
  obtain ⟨r, m, rest, rfl, e1, e2⟩ := L.dims3_cons ht hc hh
  simp only [e1, e2]

end Rechunk
