import Proofs.Basics

/-!
# The unrolled feedback forward pass is the repeated layer sequence

`seqTrace` is one pass through a layer list; `repsFrom` runs the remaining repetitions, each on the
previous output (combined with the block input when `inskips`).  `reps_fold` and `wired_fold` show that the
position-indexed fold of `Feedback.forwardAll` over the unrolled layer list computes exactly that,
provided the connection table has the shape `Feedback.create` gives it (`Wired`).

The specification `blockSpec` speaks of outputs only: `applySeq` is the composition of the layer list,
`laterReps` lists the outputs of the repetitions after the first.  `reps_spec` relates the recorded state of
`repsFrom` to that list through the invariant `Inv`, `blockOutput_of_fold` reads the block's output off the
state the fold ends in, and `wired_output` puts them together: a wired block outputs `blockSpec`.
-/

namespace FeedbackSpec
open Network Scalar

variable {α : Type} [Scalar α]

abbrev St (α : Type) := List (Tensor α) × List (Tensor α) × List (Option MaxIdx)

/-- one pass through a layer sequence: pre-activations, outputs, max-pool records, in order -/
def seqTrace : List (InnerLayer α) → Tensor α → Except Err (St α)
  | [], _ => .ok ([], [], [])
  | l :: ls, x =>
    if l.inputs ≠ x.shape then .error .shape else
    match l.forward x with
    | .error e => .error e
    | .ok (pre, post, m) =>
      match seqTrace ls post with
      | .error e => .error e
      | .ok (us, as, ms) => .ok (pre :: us, post :: as, m :: ms)

/-- a pass appended to a recorded state -/
def segTrace (ls : List (InnerLayer α)) (xin : Tensor α) (st : St α) : Except Err (St α) :=
  match seqTrace ls xin with
  | .error e => .error e
  | .ok (us, as, ms) => .ok (st.1 ++ us, st.2.1 ++ as, st.2.2 ++ ms)

/-- what a repetition after the first receives: the previous output, combined with the block's input
    when input skips are on -/
def repInput (acc : Accumulation) (inskips : Bool) (x y : Tensor α) : Except Err (Tensor α) :=
  if inskips then accumulateMany acc y [x] else .ok y

def repsFrom (ls : List (InnerLayer α)) (acc : Accumulation) (inskips : Bool) (x : Tensor α) :
    Nat → St α → Except Err (St α)
  | 0, st => .ok st
  | k + 1, st =>
    match st.2.1.getLast? with
    | none => .error .index
    | some y =>
      match repInput acc inskips x y with
      | .error e => .error e
      | .ok inp =>
        match segTrace ls inp st with
        | .error e => .error e
        | .ok st' => repsFrom ls acc inskips x k st'

theorem segTrace_nil (x : Tensor α) (st : St α) : segTrace [] x st = .ok st := by
  simp [segTrace, seqTrace]

theorem segTrace_cons (l : InnerLayer α) (ls : List (InnerLayer α)) (x : Tensor α) (un act : List (Tensor α))
    (mx : List (Option MaxIdx)) :
    segTrace (l :: ls) x (un, act, mx) =
      if l.inputs ≠ x.shape then .error .shape else
      match l.forward x with
      | .error e => .error e
      | .ok (pre, post, m) => segTrace ls post (un ++ [pre], act ++ [post], mx ++ [m]) := by
  simp only [segTrace, seqTrace]
  by_cases hs : l.inputs = x.shape
  · simp only [ne_eq, hs, not_true_eq_false, ↓reduceIte]
    cases l.forward x with
    | error e => rfl
    | ok r =>
      obtain ⟨pre, post, m⟩ := r
      simp only []
      cases seqTrace ls post with
      | error e => rfl
      | ok r2 => simp [List.append_assoc]
  · simp only [ne_eq, hs, not_false_eq_true, ↓reduceIte]

theorem seqTrace_length {ls : List (InnerLayer α)} {x : Tensor α} {us as : List (Tensor α)} {ms : List (Option MaxIdx)}
    (h : seqTrace ls x = .ok (us, as, ms)) : us.length = ls.length ∧ as.length = ls.length := by
  induction ls generalizing x us as ms with
  | nil => cases h; exact ⟨rfl, rfl⟩
  | cons l ls ih =>
    simp only [seqTrace] at h
    split at h
    · cases h
    · split at h
      · cases h
      · split at h
        · cases h
        · rename_i hq
          cases h
          simp [ih hq]

theorem seqTrace_concat {l : InnerLayer α} {ls : List (InnerLayer α)} {x : Tensor α} {us as : List (Tensor α)}
    {ms : List (Option MaxIdx)} (h : seqTrace (l :: ls) x = .ok (us, as, ms)) :
    us ≠ [] ∧ ∃ as' y, as = as' ++ [y] ∧ as'.length = ls.length := by
  obtain ⟨h1, h2⟩ := seqTrace_length h
  obtain ⟨as', hy⟩ := List.getLast?_eq_some_iff.mp (List.getLast?_eq_some_getLast (List.ne_nil_of_length_eq_add_one h2))
  refine ⟨List.ne_nil_of_length_eq_add_one h1, as', _, hy, ?_⟩
  rw [hy] at h2
  simpa using h2

theorem skipped_none {f : Feedback α} {p : Nat} (h : Assoc.find? f.connect p = none) (act : List (Tensor α)) (x0 : Tensor α) :
    Feedback.skipped f act p x0 = .ok x0 := by
  simp only [Feedback.skipped, h]

theorem skipped_inskip (f : Feedback α) (inskips : Bool) (x y : Tensor α) (tl : List (Tensor α)) (p : Nat)
    (hC : Assoc.find? f.connect p = (if inskips then some [0] else none)) :
    Feedback.skipped f (x :: tl) p y = repInput f.accumulation inskips x y := by
  cases inskips with
  | false => simp [Feedback.skipped, hC, repInput]
  | true => simp [Feedback.skipped, hC, repInput, L.mapM', L.get, L.get?]

/-- a stretch whose *first* position may carry a skip entry: the pass starts from the combined input -/
theorem seg_fold (f : Feedback α) (l : InnerLayer α) (ls : List (InnerLayer α)) (p : Nat)
    (un act : List (Tensor α)) (mx : List (Option MaxIdx)) (x0 : Tensor α)
    (hlast : act.getLast? = some x0)
    (hfree : ∀ q, p < q → q < p + (ls.length + 1) → Assoc.find? f.connect q = none) :
    (List.zip (List.range' p (l :: ls).length) (l :: ls)).foldl (Feedback.forwardStep f) (.ok (un, act, mx)) =
      match Feedback.skipped f act p x0 with
      | .error e => .error e
      | .ok xin => segTrace (l :: ls) xin (un, act, mx) := by
  induction ls generalizing l p un act mx x0 with
  | nil =>
    simp only [List.length_cons, List.length_nil, List.range'_succ, List.range'_zero, List.zip_cons_cons, List.zip_nil_right,
      List.foldl_cons, List.foldl_nil, Feedback.forwardStep, hlast, segTrace_cons, segTrace_nil]
    cases Feedback.skipped f act p x0 <;> rfl
  | cons l' ls ih =>
    rw [List.length_cons, List.range'_succ, List.zip_cons_cons, List.foldl_cons]
    simp only [Feedback.forwardStep, hlast, segTrace_cons l]
    cases Feedback.skipped f act p x0 with
    | error e => rw [L.foldl_error (fun _ _ => rfl)]
    | ok xin =>
      by_cases hs : l.inputs = xin.shape
      case neg => simp only [ne_eq, hs, not_false_eq_true, ↓reduceIte]; rw [L.foldl_error (fun _ _ => rfl)]
      case pos =>
        simp only [ne_eq, hs, not_true_eq_false, ↓reduceIte]
        cases l.forward xin with
        | error e => rw [L.foldl_error (fun _ _ => rfl)]
        | ok r =>
          -- the rest of the stretch: its first position is free, so it starts from what `l` produced
          have e : p + 1 + (ls.length + 1) = p + ((l' :: ls).length + 1) := by rw [List.length_cons]; omega
          rw [ih l' (p + 1) _ _ _ r.2.1 List.getLast?_concat (fun q h1 h2 => hfree q (Nat.lt_of_succ_lt h1) (e ▸ h2)),
            skipped_none (hfree (p + 1) p.lt_succ_self (e ▸ Nat.lt_add_of_pos_right (Nat.succ_pos _)))]

theorem noskip_fold (f : Feedback α) : ∀ (ls : List (InnerLayer α)) (p : Nat) (un act : List (Tensor α))
    (mx : List (Option MaxIdx)) (x0 : Tensor α),
    act.getLast? = some x0 →
    (∀ q, p ≤ q → q < p + ls.length → Assoc.find? f.connect q = none) →
    (List.zip (List.range' p ls.length) ls).foldl (Feedback.forwardStep f) (.ok (un, act, mx)) =
      segTrace ls x0 (un, act, mx) := by
  intro ls p un act mx x0 hlast hfree
  cases ls with
  | nil => exact (segTrace_nil x0 _).symm
  | cons l ls =>
    rw [seg_fold f l ls p un act mx x0 hlast (fun q h1 h2 => hfree q (Nat.le_of_lt h1) h2),
      skipped_none (hfree p (Nat.le_refl _) (Nat.lt_add_of_pos_right (Nat.succ_pos _)))]

/-- `k` repetitions starting at position `p`, each first position carrying the input-skip entry (or
    none), all other positions free: the fold is `repsFrom` -/
theorem reps_fold (f : Feedback α) (l0 : InnerLayer α) (ls' : List (InnerLayer α)) (inskips : Bool) (x : Tensor α) :
    ∀ (k p : Nat) (un : List (Tensor α)) (tl : List (Tensor α)) (mx : List (Option MaxIdx)),
    (∀ i, i < k → Assoc.find? f.connect (p + i * (ls'.length + 1)) = (if inskips then some [0] else none)) →
    (∀ i q, i < k → p + i * (ls'.length + 1) < q → q < p + (i + 1) * (ls'.length + 1) →
        Assoc.find? f.connect q = none) →
    (List.zip (List.range' p (k * (ls'.length + 1))) ((List.range k).flatMap (fun _ => l0 :: ls'))).foldl
        (Feedback.forwardStep f) (.ok (un, x :: tl, mx)) =
      repsFrom (l0 :: ls') f.accumulation inskips x k (un, x :: tl, mx) := by
  intro k
  induction k with
  | zero => intro p un tl mx _ _; simp [repsFrom]
  | succ k ih =>
    intro p un tl mx hC hF
    have hy := List.getLast?_eq_some_getLast (List.cons_ne_nil x tl)
    rw [← List.length_cons (a := l0), L.unroll_fold, seg_fold f l0 ls' p un (x :: tl) mx _ hy
        (fun q h1 h2 => hF 0 q k.succ_pos (by rwa [Nat.zero_mul]) (by rwa [Nat.zero_add, Nat.one_mul])),
      skipped_inskip f inskips x _ tl p (by simpa using hC 0 k.succ_pos)]
    simp only [repsFrom, hy, segTrace]
    cases repInput f.accumulation inskips x _ with
    | error e => exact L.foldl_error fun _ _ => rfl
    | ok inp =>
      simp only []
      cases seqTrace (l0 :: ls') inp with
      | error e => exact L.foldl_error fun _ _ => rfl
      | ok r =>
        -- the state the pass leaves still starts with the block input; repetition `i` from there is repetition `i + 1` from `p`
        have e : ∀ i, p + (ls'.length + 1) + i * (ls'.length + 1) = p + (i + 1) * (ls'.length + 1) := fun i => by
          rw [Nat.succ_mul, Nat.add_right_comm, Nat.add_assoc]
        exact ih (p + (ls'.length + 1)) (un ++ r.1) (tl ++ r.2.1) (mx ++ r.2.2)
          (fun i hi => e i ▸ hC (i + 1) (Nat.succ_lt_succ hi))
          (fun i q hi h1 h2 => hF (i + 1) q (Nat.succ_lt_succ hi) (e i ▸ h1) (e (i + 1) ▸ h2))

def applySeq (ls : List (InnerLayer α)) (x : Tensor α) : Except Err (Tensor α) :=
  match seqTrace ls x with
  | .error e => .error e
  | .ok (_, as, _) => .ok (as.getLast?.getD x)

/-- outputs of `k` further repetitions after one that produced `y` -/
def laterReps (ls : List (InnerLayer α)) (acc : Accumulation) (inskips : Bool) (x : Tensor α) :
    Nat → Tensor α → Except Err (List (Tensor α))
  | 0, _ => .ok []
  | k + 1, y =>
    match repInput acc inskips x y with
    | .error e => .error e
    | .ok inp =>
      match applySeq ls inp with
      | .error e => .error e
      | .ok y' =>
        match laterReps ls acc inskips x k y' with
        | .error e => .error e
        | .ok ys => .ok (y' :: ys)

/-- the recorded state after `j + 1` completed repetitions: the activations end in the last output `y`, and
    the outputs `ys` of the earlier repetitions stand in front of it at positions `len, 2·len, …, j·len` -/
structure Inv (len j : Nat) (st : St α) (ys : List (Tensor α)) (y : Tensor α) : Prop where
  un : st.1 ≠ []
  /-- `d` begins with the block input (position 0): hence `(j + 1) * len` entries, repetition `i`'s output at `i * len` -/
  act : ∃ d, st.2.1 = d ++ [y] ∧ d.length = (j + 1) * len ∧
    L.mapM' (fun i => L.get d i) ((List.range' 1 j).map (· * len)) = .ok ys

omit [Scalar α] in
theorem Inv.step {len j : Nat} {st : St α} {ys : List (Tensor α)} {y : Tensor α} (h : Inv len j st ys y)
    (us as : List (Tensor α)) (ms : List (Option MaxIdx)) (y' : Tensor α) (has : as.length + 1 = len) :
    Inv len (j + 1) (st.1 ++ us, st.2.1 ++ (as ++ [y']), st.2.2 ++ ms) (ys ++ [y]) y' := by
  obtain ⟨d, hd, hlen, hsrc⟩ := h.act
  refine ⟨fun e => h.un (List.append_eq_nil_iff.mp e).1, d ++ y :: as, by simp [hd], ?_, ?_⟩
  · rw [List.length_append, List.length_cons, hlen, Nat.succ_mul (j + 1), ← has]
  · rw [List.range'_concat, List.map_append]
    -- the earlier sources are read from a prefix; the new one, `(j + 1)·len`, is where `y` stands
    exact L.mapM'_concat_ok (L.mapM'_ok_mono (fun _ _ => L.get_append_ok) hsrc)
      (L.get_append_cons (by rw [hlen, Nat.one_mul, Nat.add_comm]))

theorem reps_spec (l : InnerLayer α) (ls : List (InnerLayer α)) (acc : Accumulation) (inskips : Bool) (x : Tensor α)
    (k : Nat) {j : Nat} {st : St α} {ys : List (Tensor α)} {y : Tensor α} (h : Inv (ls.length + 1) j st ys y) :
    (∃ e, repsFrom (l :: ls) acc inskips x k st = .error e ∧ laterReps (l :: ls) acc inskips x k y = .error e) ∨
    ∃ st' ys', repsFrom (l :: ls) acc inskips x k st = .ok st' ∧ laterReps (l :: ls) acc inskips x k y = .ok ys' ∧
      Inv (ls.length + 1) (j + k) st' (ys ++ (y :: ys').dropLast) ((y :: ys').getLast?.getD y) := by
  induction k generalizing j st ys y with
  | zero => exact .inr ⟨st, [], rfl, rfl, by simpa using h⟩
  | succ k ih =>
    obtain ⟨d, hd, -⟩ := h.act
    simp only [repsFrom, laterReps, hd, List.getLast?_concat, segTrace, applySeq]
    cases repInput acc inskips x y with
    | error e => exact .inl ⟨e, rfl, rfl⟩
    | ok inp =>
      simp only []
      cases hq : seqTrace (l :: ls) inp with
      | error e => exact .inl ⟨e, rfl, rfl⟩
      | ok r =>
        obtain ⟨us, as, ms⟩ := r
        obtain ⟨-, as', y', rfl, has⟩ := seqTrace_concat hq
        simp only [List.getLast?_concat, Option.getD_some, ← hd]
        rcases ih (h.step us as' ms y' (by rw [has])) with ⟨e, hA, hB⟩ | ⟨st', ys', hA, hB, h'⟩
        · exact .inl ⟨e, hA, by rw [hB]⟩
        · refine .inr ⟨st', y' :: ys', hA, by rw [hB], ?_⟩
          simpa [Nat.add_right_comm j 1 k, ← Nat.add_assoc, List.getLast?_cons] using h'

/-- what the block hands on: the last recorded activation -/
def blockOutput (f : Feedback α) (x : Tensor α) : Except Err (Tensor α) :=
  match f.forwardAll x with
  | .error e => .error e
  | .ok (_, act, _) => match act.getLast? with
    | some y => .ok y
    | none => .error .index

/-- the specification: `L` repetitions of `ls`; later repetitions see the previous output (combined
    with the block input if `inskips`); the last output is combined with all earlier outputs if
    `outskips` (and there are any); flattened if `flatten` -/
def blockSpec (ls : List (InnerLayer α)) (loops : Nat) (inskips outskips : Bool) (acc : Accumulation)
    (flatten : Bool) (x : Tensor α) : Except Err (Tensor α) :=
  match applySeq ls x with
  | .error e => .error e
  | .ok y1 =>
    match laterReps ls acc inskips x (loops - 1) y1 with
    | .error e => .error e
    | .ok ys =>
      let all := y1 :: ys
      let last := all.getLast?.getD y1
      let comb : Except Err (Tensor α) :=
        if outskips = true ∧ 2 ≤ loops then accumulateMany acc last all.dropLast else .ok last
      match comb with
      | .error e => .error e
      | .ok out => if flatten then out.flatten else .ok out

/-- the connection table of a block as `Feedback.create` wires it -/
structure Wired (f : Feedback α) (ls : List (InnerLayer α)) (loops : Nat) (inskips outskips : Bool) : Prop where
  layers : f.layers = (List.range loops).flatMap (fun _ => ls)
  c0 : Assoc.find? f.connect 0 = none
  cin : ∀ i, 1 ≤ i → i < loops → Assoc.find? f.connect (i * ls.length) = (if inskips then some [0] else none)
  cfree : ∀ i q, i < loops → i * ls.length < q → q < (i + 1) * ls.length → Assoc.find? f.connect q = none
  cout : Assoc.find? f.connect (loops * ls.length) =
    (if outskips = true ∧ 2 ≤ loops then some ((List.range' 1 (loops - 1)).map (· * ls.length)) else none)

theorem create_ok {ls : List (InnerLayer α)} {loops : Nat} {inskips outskips : Bool} {acc : Accumulation} {f : Feedback α}
    (h : Feedback.create ls loops inskips outskips acc = .ok f) :
    loops ≠ 0 ∧ ls ≠ [] ∧ f.accumulation = acc ∧ f.flatten = false ∧
    f.layers = (List.range loops).flatMap (fun _ => ls) ∧
    f.coupled = (List.range ls.length).map (fun l => (List.range loops).map (fun i => l + i * ls.length)) ∧
    f.connect =
      (if inskips then ((List.range loops).tail.map (fun i => i * ls.length)).map (fun t => (t, [0])) else []) ++
      (if outskips ∧ (List.range loops).tail.map (fun i => i * ls.length) ≠ [] then
        [(loops * ls.length, (List.range loops).tail.map (fun i => i * ls.length))] else []) := by
  unfold Feedback.create at h
  split at h
  · cases h
  · rename_i hl
    split at h
    · rename_i first last h1 _
      split at h
      · cases h
      · cases h
        exact ⟨hl, (fun e => by rw [e] at h1; cases h1), rfl, rfl, rfl, rfl, rfl⟩
    · cases h

theorem wired_fold {f : Feedback α} {l0 : InnerLayer α} {ls' : List (InnerLayer α)} {k : Nat} {inskips outskips : Bool}
    (hw : Wired f (l0 :: ls') (k + 1) inskips outskips) (x : Tensor α) :
    (List.zip (List.range f.layers.length) f.layers).foldl (Feedback.forwardStep f) (.ok ([], [x], [])) =
      match seqTrace (l0 :: ls') x with
      | .error e => .error e
      | .ok (us, as, ms) => repsFrom (l0 :: ls') f.accumulation inskips x k (us, x :: as, ms) := by
  have hlen : (l0 :: ls').length = ls'.length + 1 := rfl
  rw [hw.layers, L.unroll_length, List.range_eq_range', L.unroll_fold,
    seg_fold f l0 ls' 0 [] [x] [] x rfl (fun q h1 h2 => hw.cfree 0 q k.succ_pos (by rwa [Nat.zero_mul]) (by simpa using h2)),
    skipped_none hw.c0]
  simp only [segTrace]
  cases seqTrace (l0 :: ls') x with
  | error e => exact L.foldl_error fun _ _ => rfl
  | ok r =>
    -- repetition `i` of the remaining `k` is repetition `i + 1` of the block
    have e : ∀ i, 0 + (l0 :: ls').length + i * (ls'.length + 1) = (i + 1) * (l0 :: ls').length := fun i => by
      rw [hlen, Nat.zero_add, Nat.succ_mul, Nat.add_comm]
    exact reps_fold f l0 ls' inskips x k _ r.1 r.2.1 r.2.2
      (fun i hi => e i ▸ hw.cin (i + 1) (Nat.le_add_left 1 i) (Nat.succ_lt_succ hi))
      (fun i q hi h1 h2 => hw.cfree (i + 1) q (Nat.succ_lt_succ hi) (e i ▸ h1) (e (i + 1) ▸ h2))

theorem blockOutput_of_fold {f : Feedback α} {x y : Tensor α} {un d : List (Tensor α)} {mx : List (Option MaxIdx)}
    (hfold : (List.zip (List.range f.layers.length) f.layers).foldl (Feedback.forwardStep f) (.ok ([], [x], [])) =
      .ok (un, d ++ [y], mx)) (hun : un ≠ []) :
    blockOutput f x = match Feedback.skipped f d f.layers.length y with
      | .error e => .error e
      | .ok out => if f.flatten then out.flatten else .ok out := by
  obtain ⟨u, un', rfl⟩ := List.exists_cons_of_ne_nil hun
  simp only [blockOutput, Feedback.forwardAll, hfold, List.getLast?_concat, List.dropLast_concat, List.head?_cons]
  cases Feedback.skipped f d f.layers.length y with
  | error e => rfl
  | ok out =>
    cases f.flatten with
    | false => simp
    | true =>
      simp only [if_true]
      cases out.flatten with
      | error e => rfl
      | ok o => simp

theorem wired_output (f : Feedback α) (l0 : InnerLayer α) (ls' : List (InnerLayer α)) (k : Nat)
    (inskips outskips : Bool) (x : Tensor α) (hw : Wired f (l0 :: ls') (k + 1) inskips outskips) :
    blockOutput f x = blockSpec (l0 :: ls') (k + 1) inskips outskips f.accumulation f.flatten x := by
  have hfold := wired_fold hw x
  simp only [blockSpec, applySeq, Nat.add_sub_cancel]
  cases hq : seqTrace (l0 :: ls') x with
  | error e => simp only [hq] at hfold; simp only [blockOutput, Feedback.forwardAll, hfold]
  | ok r =>
    obtain ⟨us, as, ms⟩ := r
    obtain ⟨hus, as', y1, rfl, has⟩ := seqTrace_concat hq
    simp only [hq] at hfold
    simp only [List.getLast?_concat, Option.getD_some]
    have hinv : Inv (ls'.length + 1) 0 (us, x :: (as' ++ [y1]), ms) [] y1 := ⟨hus, x :: as', rfl, by simp [has], rfl⟩
    rcases reps_spec l0 ls' f.accumulation inskips x k hinv with
      ⟨e, hA, hB⟩ | ⟨⟨un, act, mx⟩, ys, hA, hB, hun, d, rfl, hlen, hsrc⟩
    · simp only [hA] at hfold
      simp only [blockOutput, Feedback.forwardAll, hfold, hB]
    · rw [hA] at hfold
      rw [hB, blockOutput_of_fold hfold hun, hw.layers, L.unroll_length]
      -- the output skip reads the outputs of the earlier repetitions
      have hcout := hw.cout
      simp only [List.length_cons, Nat.add_sub_cancel] at hcout
      simp only [Nat.zero_add, List.nil_append] at hsrc
      simp only [Feedback.skipped, List.length_cons, hcout]
      by_cases hc : outskips = true ∧ 2 ≤ k + 1
      · simp only [if_pos hc, hsrc]
      · simp only [if_neg hc]

theorem mapM'_length {β γ : Type} (g : β → Except Err γ) : ∀ (l : List β) (r : List γ),
    L.mapM' g l = .ok r → r.length = l.length :=
  L.mapM'_length g

theorem get_last {β : Type} (l : List β) (y : β) (i : Nat) (h : i + 1 = l.length) (hy : l.getLast? = some y) :
    L.get l i = .ok y :=
  (L.get_last_iff h).mpr hy

end FeedbackSpec
