import Proofs.SkipDag

/-!
# Skip tables with an outer variable: parameter gradients (C16)

The setting of `SkipDag`, with the network input and every layer's output allowed to depend additively on an
outer variable `z` (`u₀ = inp z`, `u_{i+1} = φ i z + f i (p i)`); the sweep additionally accumulates
`bφ i (g_{i+1})`.  With `z` the parameters of one layer, its input held fixed (`paramNet`), `param_gradient` says:
that layer's parameter-VJP applied to the gradient the sweep hands to it is the gradient of the objective in
those parameters, for any skip table.  With `z` the network input itself (`ofNet`: `inp = id`, `φ = 0`) `U`, `P`,
`sweep` are those of `SkipDag`, and `sweep_isVJP` gives `SkipDag.sweep_isVJP`.
-/

open BigOperators

namespace SkipDagP
open VJP SkipDag

variable {α ι : Type}

structure PNet (α ι : Type) where
  N : SkipDag.Net ι
  /-- what the output of layer `i` owes directly to the outer variable: `u_{i+1} = φ i z + f i (p i)` -/
  φ : Nat → V α → V ι
  /-- the backward function of `φ i` (`Ok.outer`) -/
  bφ : Nat → V ι → V α
  /-- the network input as a function of the outer variable: `u₀ = inp z` -/
  inp : V α → V ι
  /-- the backward function of `inp` (`Ok.inp`) -/
  binp : V ι → V α

def U (M : PNet α ι) : Nat → V α → V ι
  | 0, z => M.inp z
  | i + 1, z => M.φ i z + M.N.f i (U M i z + (match M.N.S i with
      | some s => if _ : s ≤ i then U M s z else 0
      | none => 0))

def skipv (M : PNet α ι) (i : Nat) (z : V α) : V ι :=
  match M.N.S i with
  | some s => if s ≤ i then U M s z else 0
  | none => 0

def P (M : PNet α ι) (i : Nat) (z : V α) : V ι := U M i z + skipv M i z

theorem U_succ (M : PNet α ι) (i : Nat) (z : V α) : U M (i + 1) z = M.φ i z + M.N.f i (P M i z) := by
  rw [U]
  simp only [P, skipv]
  congr 3

theorem P_eq (M : PNet α ι) (N : SkipDag.Net ι) (z : V α) (x : V ι) (hS : M.N.S = N.S) (j : Nat)
    (hU : ∀ i, i ≤ j → U M i z = SkipDag.U N i x) : P M j z = SkipDag.P N j x := by
  simp only [P, SkipDag.P, skipv, SkipDag.skipv, hU j (Nat.le_refl j), hS]
  congr 1
  cases N.S j with
  | none => rfl
  | some s =>
    simp only []
    split
    · exact hU s ‹_›
    · rfl

theorem U_eq (M : PNet α ι) (N : SkipDag.Net ι) (z : V α) (x : V ι) (hS : M.N.S = N.S) (h0 : M.inp z = x)
    (hstep : ∀ i, M.φ i z + M.N.f i (SkipDag.P N i x) = N.f i (SkipDag.P N i x)) :
    ∀ j, U M j z = SkipDag.U N j x := by
  intro j
  induction j using Nat.strong_induction_on with
  | _ j ih =>
    cases j with
    | zero =>
      rw [U, SkipDag.U]
      exact h0
    | succ i => rw [U_succ, SkipDag.U_succ, P_eq M N z x hS i fun j hj => ih j (Nat.lt_succ_of_le hj), hstep]

/-- the backward function that mirrors the recursion of `U` clause by clause, hence is its transposed Jacobian by
    construction (`tree_isVJP`); the sweep, which visits every layer once, is compared with it (`sweep_invariant`) -/
def B (M : PNet α ι) (z : V α) : Nat → V ι → V α
  | 0, g => M.binp g
  | i + 1, g =>
    M.bφ i g + (B M z i (M.N.b i (P M i z) g) + (match M.N.S i with
      | some s => if _ : s ≤ i then B M z s (M.N.b i (P M i z) g) else 0
      | none => 0))

def skipb (M : PNet α ι) (z : V α) (i : Nat) (δ : V ι) : V α :=
  match M.N.S i with
  | some s => if s ≤ i then B M z s δ else 0
  | none => 0

theorem B_succ (M : PNet α ι) (z : V α) (i : Nat) (g : V ι) :
    B M z (i + 1) g = M.bφ i g + (B M z i (M.N.b i (P M i z) g) + skipb M z i (M.N.b i (P M i z) g)) := by
  rw [B]
  simp only [skipb]
  congr 2

/-- the sweep: gradient handed on, processed-input gradients, accumulated outer gradient -/
def sweep (M : PNet α ι) (tg : Nat → List Nat) (z : V α) (n : Nat) (g : V ι) : Nat → V ι × (Nat → V ι) × V α
  | 0 => (g, fun _ => 0, 0)
  | k + 1 =>
    let st := sweep M tg z n g k
    let i := n - (k + 1)
    let δ := M.N.b i (P M i z) st.1
    let D := fun t => if t = i then δ else st.2.1 t
    (δ + ((tg i).map D).sum, D, st.2.2 + M.bφ i st.1)

theorem sweep_eq {M : PNet α ι} (N : SkipDag.Net ι) (tg : Nat → List Nat) (z : V α) (x : V ι) (n : Nat) (g : V ι)
    (hP : ∀ j, P M j z = SkipDag.P N j x) (k : Nat)
    (hb : ∀ i, n - k ≤ i → M.N.b i = N.b i ∧ M.bφ i = fun _ => 0) :
    sweep M tg z n g k = ((SkipDag.sweep N tg x n g k).1, (SkipDag.sweep N tg x n g k).2, 0) := by
  induction k with
  | zero => rfl
  | succ k ih =>
    obtain ⟨h1, h2⟩ := hb (n - (k + 1)) (Nat.le_refl _)
    simp only [sweep, SkipDag.sweep, ih (fun i hi => hb i (by omega)), hP, h1, h2, add_zero]

theorem sweep_acc (M : PNet α ι) (tg : Nat → List Nat) (z : V α) (n : Nat) (g : V ι) (k : Nat) :
    (sweep M tg z n g k).2.2 = ∑ r ∈ Finset.range k, M.bφ (n - (r + 1)) (sweep M tg z n g r).1 := by
  induction k with
  | zero => rfl
  | succ k ih => rw [Finset.sum_range_succ, ← ih, sweep]

theorem sweep_D_zero (M : PNet α ι) (tg : Nat → List Nat) (z : V α) (n : Nat) (g : V ι) (k i t : Nat) (hi : i + k = n)
    (ht : t < i) :
    (sweep M tg z n g k).2.1 t = 0 := by
  induction k generalizing i with
  | zero => rfl
  | succ k ih =>
    have hj : n - (k + 1) = i := Nat.sub_eq_of_eq_add hi.symm
    simp only [sweep, hj]
    rw [if_neg (Nat.ne_of_lt ht), ih (i + 1) ((Nat.add_right_comm i 1 k).trans hi) (Nat.lt_succ_of_lt ht)]

/-- what the layers visited so far owe to source `s`: the processed-input gradients of its targets -/
def owed (M : PNet α ι) (n : Nat) (D : Nat → V ι) (s : Nat) : V ι :=
  ∑ t ∈ Finset.range n, if M.N.S t = some s then D t else 0

theorem owed_update (M : PNet α ι) (n : Nat) (D : Nat → V ι) (j : Nat) (hj : j < n) (hD : D j = 0) (δ : V ι) (s : Nat) :
    owed M n (fun t => if t = j then δ else D t) s = owed M n D s + if M.N.S j = some s then δ else 0 := by
  unfold owed
  rw [show (if M.N.S j = some s then δ else 0) =
      ∑ t ∈ Finset.range n, if t = j then (if M.N.S t = some s then δ else 0) else 0 by
    rw [Finset.sum_ite_eq', if_pos (Finset.mem_range.mpr hj)], ← Finset.sum_add_distrib]
  refine Finset.sum_congr rfl fun t _ => ?_
  beta_reduce
  by_cases htj : t = j
  · subst htj
    rw [if_pos rfl, if_pos rfl, hD, ite_self, zero_add]
  · rw [if_neg htj, if_neg htj, add_zero]

theorem skipb_split (M : PNet α ι) (z : V α) (j : Nat) (hS : ∀ s, M.N.S j = some s → s ≤ j) (δ : V ι) :
    skipb M z j δ = (if M.N.S j = some j then B M z j δ else 0) +
      ∑ s ∈ Finset.range j, if M.N.S j = some s then B M z s δ else 0 := by
  unfold skipb
  cases hSj : M.N.S j with
  | none => simp
  | some s =>
    have hle := hS s hSj
    simp only [hle, if_true, Option.some.injEq, Finset.sum_ite_eq, Finset.mem_range]
    rcases Nat.lt_or_eq_of_le hle with h | h
    · rw [if_neg (Nat.ne_of_lt h), if_pos h, zero_add]
    · subst h
      rw [if_pos rfl, if_neg (Nat.lt_irrefl _), add_zero]

/-- the bookkeeping of one step of the sweep, about variables (`abel` on the terms themselves is slow) -/
theorem alg {Bd sk Bo X s φb Bi Xi : V α} (h : sk = Bi + Xi) :
    φb + (Bd + sk) + (X + Bo) + s = Bd + (Bo + Bi) + (X + Xi) + (s + φb) := by
  rw [h]
  abel

structure Ok [Fintype α] [Fintype ι] (M : PNet α ι) (n : Nat) (z : V α) : Prop where
  layer : ∀ i, i < n → IsVJP (M.N.f i) (P M i z) (M.N.b i (P M i z))
  outer : ∀ i, i < n → IsVJP (M.φ i) z (M.bφ i)
  inp : IsVJP M.inp z M.binp

theorem tree_isVJP [Fintype α] [Fintype ι] (M : PNet α ι) (n : Nat) (z : V α) (hok : Ok M n z) :
    ∀ j, j ≤ n → IsVJP (U M j) z (B M z j) := by
  intro j
  induction j using Nat.strong_induction_on with
  | _ j ih =>
    intro hj
    cases j with
    | zero =>
      have hU : U M 0 = M.inp := funext fun y => by rw [U]
      have hB : B M z 0 = M.binp := funext fun g => by rw [B]
      rw [hU, hB]
      exact hok.inp
    | succ i =>
      rw [funext (U_succ M i), funext (B_succ M z i)]
      have hi := ih i (Nat.lt_succ_self i) (Nat.le_of_succ_le hj)
      have hs : IsVJP (fun y => skipv M i y) z (fun δ => skipb M z i δ) := by
        unfold skipv skipb
        cases hS : M.N.S i with
        | none => exact isVJP_zero z
        | some s =>
          simp only []
          by_cases hle : s ≤ i
          · simp only [hle, if_true]
            exact ih s (Nat.lt_succ_of_le hle) (Nat.le_trans hle (Nat.le_of_succ_le hj))
          · simp only [hle, if_false]
            exact isVJP_zero z
      exact IsVJP.add (hok.outer i hj) (IsVJP.comp (IsVJP.add hi hs) (hok.layer i hj))

/-- after `k` layers, with `i + k = n`: the tree-shaped backward of the gradient handed on, of what the layers
    visited owe to the sources below `i`, and what has been accumulated add up to the tree-shaped backward of `g` -/
theorem sweep_invariant [Fintype α] [Fintype ι] (M : PNet α ι) (tg : Nat → List Nat) (z : V α) (n : Nat) (g : V ι)
    (hok : Ok M n z) (hS : ∀ i s, M.N.S i = some s → s ≤ i) (htg : Targets M.N n tg) (k i : Nat) (hi : i + k = n) :
    B M z n g = B M z i (sweep M tg z n g k).1 +
      ∑ s ∈ Finset.range i, B M z s (owed M n (sweep M tg z n g k).2.1 s) + (sweep M tg z n g k).2.2 := by
  induction k generalizing i with
  | zero =>
    obtain rfl : i = n := hi
    have : ∀ s ∈ Finset.range i, B M z s (owed M i (fun _ => (0 : V ι)) s) = 0 := fun s hs => by
      have : owed M i (fun _ => (0 : V ι)) s = 0 := Finset.sum_eq_zero fun t _ => ite_self 0
      rw [this, (tree_isVJP M i z hok s (Nat.le_of_lt (Finset.mem_range.mp hs))).map_zero]
    simp only [sweep, Finset.sum_eq_zero this, add_zero]
  | succ k ih =>
    have hj : n - (k + 1) = i := Nat.sub_eq_of_eq_add hi.symm
    have hin : i < n := Nat.lt_of_lt_of_eq (Nat.lt_add_of_pos_right (Nat.succ_pos k)) hi
    have hi1 : i + 1 + k = n := (Nat.add_right_comm i 1 k).trans hi
    rw [ih (i + 1) hi1]
    have hD0 := sweep_D_zero M tg z n g k (i + 1) i hi1 (Nat.lt_succ_self i)
    simp only [sweep, hj]
    set st := sweep M tg z n g k
    set δ := M.N.b i (P M i z) st.1
    have hB : ∀ s, s ≤ i → IsVJP (U M s) z (B M z s) := fun s hs =>
      tree_isVJP M n z hok s (Nat.le_trans hs (Nat.le_of_lt hin))
    -- visiting layer `i` adds `δ` to what its source is owed
    have hupd : ∀ s, s ≤ i → B M z s (owed M n (fun t => if t = i then δ else st.2.1 t) s) =
        B M z s (owed M n st.2.1 s) + if M.N.S i = some s then B M z s δ else 0 := fun s hs => by
      rw [owed_update M n st.2.1 i hin hD0 δ, (hB s hs).map_add, apply_ite (B M z s), (hB s hs).map_zero]
    have hsum : ∑ s ∈ Finset.range i, B M z s (owed M n (fun t => if t = i then δ else st.2.1 t) s) =
        ∑ s ∈ Finset.range i, B M z s (owed M n st.2.1 s) +
          ∑ s ∈ Finset.range i, if M.N.S i = some s then B M z s δ else 0 := by
      rw [← Finset.sum_add_distrib]
      exact Finset.sum_congr rfl fun s hs => hupd s (Nat.le_of_lt (Finset.mem_range.mp hs))
    have htop : B M z i (δ + ((tg i).map fun t => if t = i then δ else st.2.1 t).sum) =
        B M z i δ + (B M z i (owed M n st.2.1 i) + if M.N.S i = some i then B M z i δ else 0) := by
      rw [SkipDag.targets_sum M.N n tg htg i, (hB i (Nat.le_refl _)).map_add]
      exact congrArg _ (hupd i (Nat.le_refl _))
    rw [B_succ, Finset.sum_range_succ, htop, hsum]
    -- `φb = bφ i` of the gradient handed on, `Bd = B i δ`, `sk = skipb i δ`, `Bo` / `X` what the layers visited owe to `i` / below `i`,
    -- `s` the accumulated gradient; `skipb_split` sorts `sk` into `Bi` (a connection to `i` itself) and `Xi` (below `i`)
    exact alg (skipb_split M z i (hS i) δ)

theorem sweep_isVJP [Fintype α] [Fintype ι] (M : PNet α ι) (tg : Nat → List Nat) (z : V α) (n : Nat)
    (hok : Ok M n z) (hS : ∀ i s, M.N.S i = some s → s ≤ i) (htg : Targets M.N n tg) :
    IsVJP (U M n) z (fun g => M.binp (sweep M tg z n g n).1 + (sweep M tg z n g n).2.2) := by
  have heq : B M z n = fun g => M.binp (sweep M tg z n g n).1 + (sweep M tg z n g n).2.2 := by
    funext g
    rw [sweep_invariant M tg z n g hok hS htg n 0 (Nat.zero_add n), Finset.range_zero, Finset.sum_empty, add_zero, B]
  rw [← heq]
  exact tree_isVJP M n z hok n (Nat.le_refl _)

/-- the network `N` on the fixed input `x`, as a function of the parameters of layer `c`: that layer's output
    is `lay θ` (its processed input does not depend on its own parameters), everything else is unchanged -/
def paramNet (N : SkipDag.Net ι) (x : V ι) (c : Nat) (lay : V α → V ι) (bθ : V ι → V α) : PNet α ι where
  N := { f := fun i => if i = c then (fun _ => 0) else N.f i,
         b := fun i p g => if i = c then 0 else N.b i p g,
         S := N.S }
  φ := fun i => if i = c then lay else fun _ => 0
  bφ := fun i => if i = c then bθ else fun _ => 0
  inp := fun _ => x
  binp := fun _ => 0

section
variable (N : SkipDag.Net ι) (x : V ι) (c : Nat) (lay : V α → V ι) (bθ : V ι → V α) (θ₀ : V α)
  (hlay : lay θ₀ = N.f c (SkipDag.P N c x))

theorem param_U_spec (θ : V α) :
    U (paramNet N x c lay bθ) 0 θ = x ∧
    ∀ i, U (paramNet N x c lay bθ) (i + 1) θ =
      if i = c then lay θ else N.f i (P (paramNet N x c lay bθ) i θ) := by
  refine ⟨by rw [U]; rfl, fun i => ?_⟩
  rw [U_succ]
  by_cases hic : i = c
  · simp only [paramNet, hic, if_true, add_zero]
  · simp only [paramNet, if_neg hic, zero_add]

include hlay in
theorem param_values : ∀ j, U (paramNet N x c lay bθ) j θ₀ = SkipDag.U N j x := by
  refine U_eq (paramNet N x c lay bθ) N θ₀ x rfl rfl (fun i => ?_)
  by_cases hic : i = c
  · subst hic
    simp only [paramNet, if_true, hlay, add_zero]
  · simp only [paramNet, if_neg hic, zero_add]

include hlay in
theorem param_P (j : Nat) : P (paramNet N x c lay bθ) j θ₀ = SkipDag.P N j x :=
  P_eq (paramNet N x c lay bθ) N θ₀ x rfl j fun i _ => param_values N x c lay bθ θ₀ hlay i

include hlay in
theorem param_ok [Fintype α] [Fintype ι] (n : Nat) (hok : SkipDag.Ok N n x) (hθ : IsVJP lay θ₀ bθ) :
    Ok (paramNet N x c lay bθ) n θ₀ where
  layer i hi := by
    rw [param_P N x c lay bθ θ₀ hlay]
    by_cases hic : i = c
    · simp only [paramNet, hic, if_true]
      exact isVJP_zero _
    · simp only [paramNet, if_neg hic]
      exact hok i hi
  outer i hi := by
    by_cases hic : i = c
    · simp only [paramNet, hic, if_true]; exact hθ
    · simp only [paramNet, if_neg hic]; exact isVJP_zero _
  inp := isVJP_const θ₀ x

include hlay in
theorem param_sweep_above (tg : Nat → List Nat) (n : Nat) (g : V ι) (k : Nat) (hk : k + c + 1 ≤ n) :
    sweep (paramNet N x c lay bθ) tg θ₀ n g k = ((SkipDag.sweep N tg x n g k).1, (SkipDag.sweep N tg x n g k).2, 0) :=
  sweep_eq N tg θ₀ x n g (param_P N x c lay bθ θ₀ hlay) k fun i hi => by
    have hic : i ≠ c := by omega
    simp only [paramNet, if_neg hic, and_self]

include hlay in
/-- **the weight gradient of a layer inside any skip table**: the layer's parameter-VJP applied to the gradient
    the sweep hands to it is the transposed Jacobian of the network output as a function of that layer's
    parameters -/
theorem param_gradient [Fintype α] [Fintype ι] (tg : Nat → List Nat) (n : Nat) (hc : c < n)
    (hok : SkipDag.Ok N n x) (hS : ∀ i s, N.S i = some s → s ≤ i) (htg : Targets N n tg) (hθ : IsVJP lay θ₀ bθ) :
    IsVJP (U (paramNet N x c lay bθ) n) θ₀ (fun g => bθ (SkipDag.sweep N tg x n g (n - (c + 1))).1) := by
  have h := sweep_isVJP (paramNet N x c lay bθ) tg θ₀ n (param_ok N x c lay bθ θ₀ hlay n hok hθ) hS htg
  have heq : (fun g => (paramNet N x c lay bθ).binp (sweep (paramNet N x c lay bθ) tg θ₀ n g n).1 +
      (sweep (paramNet N x c lay bθ) tg θ₀ n g n).2.2) = fun g => bθ (SkipDag.sweep N tg x n g (n - (c + 1))).1 := by
    funext g
    -- only the layer itself contributes, and above it the sweep is the sweep of `N`
    rw [sweep_acc, Finset.sum_eq_single (n - (c + 1)), step_visits hc,
      param_sweep_above N x c lay bθ θ₀ hlay tg n g (n - (c + 1)) (by omega)]
    · simp only [paramNet, if_true, zero_add]
    · intro r hr hne
      have hic : n - (r + 1) ≠ c := by
        have := Finset.mem_range.mp hr
        omega
      simp only [paramNet, if_neg hic]
    · intro hn
      exact absurd (Finset.mem_range.mpr (by omega)) hn
  rw [heq] at h
  exact h

end

def ofNet (N : SkipDag.Net ι) : PNet ι ι where
  N := N
  φ := fun _ _ => 0
  bφ := fun _ _ => 0
  inp := fun x => x
  binp := fun g => g

theorem ofNet_U (N : SkipDag.Net ι) (x : V ι) (j : Nat) : U (ofNet N) j x = SkipDag.U N j x :=
  U_eq (ofNet N) N x x rfl rfl (fun _ => zero_add _) j

theorem ofNet_P (N : SkipDag.Net ι) (x : V ι) (j : Nat) : P (ofNet N) j x = SkipDag.P N j x :=
  P_eq (ofNet N) N x x rfl j fun i _ => ofNet_U N x i

theorem ofNet_sweep (N : SkipDag.Net ι) (tg : Nat → List Nat) (x : V ι) (n : Nat) (g : V ι) (k : Nat) :
    sweep (ofNet N) tg x n g k = ((SkipDag.sweep N tg x n g k).1, (SkipDag.sweep N tg x n g k).2, 0) :=
  sweep_eq N tg x x n g (ofNet_P N x) k fun _ _ => ⟨rfl, rfl⟩

theorem ofNet_ok [Fintype ι] (N : SkipDag.Net ι) (n : Nat) (x : V ι) (hok : SkipDag.Ok N n x) : Ok (ofNet N) n x where
  layer i hi := by rw [ofNet_P]; exact hok i hi
  outer _ _ := isVJP_zero x
  inp := isVJP_id x

end SkipDagP

namespace SkipDag
open VJP

variable {ι : Type} [Fintype ι]

theorem sweep_isVJP (N : Net ι) (tg : Nat → List Nat) (x : V ι) (n : Nat)
    (hok : Ok N n x) (hS : ∀ i s, N.S i = some s → s ≤ i) (htg : Targets N n tg) :
    IsVJP (U N n) x (fun g => (sweep N tg x n g n).1) := by
  have h := SkipDagP.sweep_isVJP (SkipDagP.ofNet N) tg x n (SkipDagP.ofNet_ok N n x hok) hS htg
  have hU : SkipDagP.U (SkipDagP.ofNet N) n = U N n := funext fun y => SkipDagP.ofNet_U N y n
  simp only [SkipDagP.ofNet_sweep, add_zero, hU] at h
  exact h

end SkipDag
