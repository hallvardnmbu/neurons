import Model.Tensor
import Proofs.Real

/-!
# Loops as sums (over `ℝ`)

The Rust accumulation loops are left folds, most of them over `List.range`; over the reals they are finite sums.
The nested sums this gives are re-ordered by `sum_rotate`; `sum_window` reads the window off a padded range.
-/

open Finset

namespace Folds

/-- `sumL` is the Rust `.sum::<f32>()` -/
theorem sumL_eq (l : List ℝ) : Tensor.sumL l = l.sum := by
  rw [Tensor.sumL, neg_zero, ← List.sum_eq_foldl]

/-- `Finset.range n` is `List.range n` as a multiset -/
theorem sum_map_range (n : ℕ) (f : ℕ → ℝ) : ((List.range n).map f).sum = ∑ i ∈ range n, f i := rfl

theorem sum_map_flatMap {β γ : Type} (l : List β) (f : β → List γ) (g : γ → ℝ) :
    ((l.flatMap f).map g).sum = (l.map (fun a => ((f a).map g).sum)).sum := by
  induction l with
  | nil => simp
  | cons a l ih => simp only [List.flatMap_cons, List.map_append, List.sum_append, List.map_cons, List.sum_cons, ih]

theorem sum_flatMap_range {γ : Type} (n : ℕ) (f : ℕ → List γ) (g : γ → ℝ) :
    (((List.range n).flatMap f).map g).sum = ∑ i ∈ range n, ((f i).map g).sum := by
  rw [sum_map_flatMap, sum_map_range]

theorem sum_map_filterMap {β γ : Type} (l : List β) (φ : β → Option γ) (g : γ → ℝ) :
    ((l.filterMap φ).map g).sum = (l.map (fun a => match φ a with | some t => g t | none => 0)).sum := by
  induction l with
  | nil => simp
  | cons a l ih =>
    simp only [List.filterMap_cons, List.map_cons, List.sum_cons]
    cases φ a with
    | none => simp [ih]
    | some t => simp [ih]

theorem list_fold_sum {β : Type} (t : β → ℝ) (l : List β) (s0 : ℝ) :
    l.foldl (fun s x => s + t x) s0 = s0 + (l.map t).sum := by
  rw [← List.foldl_map, List.sum_eq_foldr]
  exact List.foldl_eq_apply_foldr

theorem foldl_range_add (u : ℕ → ℝ) (n : ℕ) (s0 : ℝ) :
    (List.range n).foldl (fun s i => s + u i) s0 = s0 + ∑ i ∈ range n, u i := by
  rw [list_fold_sum, sum_map_range]

/-- `for i in 0..n { if p(i) { sum += t(i) } }` is `Σ_{i<n} [p i] t i` -/
theorem guarded_fold (p : ℕ → Prop) [DecidablePred p] (t : ℕ → ℝ) (n : ℕ) (s0 : ℝ) :
    (List.range n).foldl (fun s i => if p i then s + t i else s) s0 =
      s0 + ∑ i ∈ range n, (if p i then t i else 0) := by
  rw [← foldl_range_add]
  congr 1
  funext s i
  split <;> simp

theorem sum_past3 (B C D E : ℕ) (G : ℕ → ℕ → ℕ → ℕ → ℝ) :
    (∑ b ∈ range B, ∑ c ∈ range C, ∑ d ∈ range D, ∑ e ∈ range E, G b c d e) =
      ∑ c ∈ range C, ∑ d ∈ range D, ∑ e ∈ range E, ∑ b ∈ range B, G b c d e := by
  rw [sum_comm]
  apply sum_congr rfl; intro c _
  rw [sum_comm]
  apply sum_congr rfl; intro d _
  rw [sum_comm]

theorem sum_rotate (A B C D E : ℕ) (F : ℕ → ℕ → ℕ → ℕ → ℕ → ℝ) :
    (∑ a ∈ range A, ∑ b ∈ range B, ∑ c ∈ range C, ∑ d ∈ range D, ∑ e ∈ range E, F a b c d e) =
      ∑ c ∈ range C, ∑ d ∈ range D, ∑ e ∈ range E, ∑ a ∈ range A, ∑ b ∈ range B, F a b c d e :=
  (sum_congr rfl fun a _ => sum_past3 B C D E (F a)).trans
    (sum_past3 A C D E fun a c d e => ∑ b ∈ range B, F a b c d e)

theorem sum_window (p n : ℕ) (G : ℕ → ℝ) :
    (∑ y ∈ range (n + 2 * p), (if p ≤ y ∧ y < p + n then G y else 0)) = ∑ i ∈ range n, G (p + i) := by
  rw [← sum_filter]
  have : (range (n + 2 * p)).filter (fun y => p ≤ y ∧ y < p + n) = Ico p (p + n) := by
    ext y
    simp only [mem_filter, mem_range, mem_Ico]
    exact ⟨fun h => h.2, fun h => ⟨by omega, h⟩⟩
  rw [this, sum_Ico_eq_sum_range, Nat.add_sub_cancel_left]

theorem sum_window2 (p q n m : ℕ) (G : ℕ → ℕ → ℝ) :
    (∑ y ∈ range (n + 2 * p), ∑ x ∈ range (m + 2 * q),
      (if p ≤ y ∧ y < p + n ∧ q ≤ x ∧ x < q + m then G y x else 0)) =
      ∑ i ∈ range n, ∑ j ∈ range m, G (p + i) (q + j) := by
  rw [← sum_window p n fun y => ∑ j ∈ range m, G y (q + j)]
  refine sum_congr rfl fun y _ => ?_
  rw [← sum_window q m (G y)]
  by_cases hy : p ≤ y ∧ y < p + n
  · simp only [hy.1, hy.2, true_and, and_self, if_true]
  · rw [if_neg hy]
    exact sum_eq_zero fun x _ => if_neg fun h => hy ⟨h.1, h.2.1⟩

end Folds
