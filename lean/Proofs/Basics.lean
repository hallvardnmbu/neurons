import Model.Network

/-!
# The model's list primitives through core's

`L.get?` is `l[i]?`, `L.modAt` is `List.modify`, `Assoc.find?` is `List.lookup` (so core's lemmas apply); facts about
`checkedSub`, `L.get`, the nested readers `L.get3D`/`L.get4D`, folds (invariants, folds over `Except`), a list repeated `k` times (`L.unroll_*`), `L.mapM'` and the
association lists.  Core Lean only.
-/

theorem checkedSub_of_le {a b : Nat} (h : b ≤ a) : checkedSub a b = .ok (a - b) := if_pos h
theorem checkedSub_of_lt {a b : Nat} (h : a < b) : checkedSub a b = .error .arith := if_neg (Nat.not_le.mpr h)
theorem checkedSub_add_left (a b : Nat) : checkedSub (a + b) a = .ok b := by
  rw [checkedSub_of_le (Nat.le_add_right _ _), Nat.add_sub_cancel_left]
theorem checkedSub_eq_ok {a b c : Nat} : checkedSub a b = .ok c ↔ b ≤ a ∧ c = a - b := by
  unfold checkedSub; split <;> simp [*, eq_comm]
theorem checkedSub_cases (a b : Nat) : checkedSub a b = .ok (a - b) ∨ checkedSub a b = .error .arith := by
  unfold checkedSub; split <;> simp

namespace L
variable {β γ : Type}

theorem get?_eq : ∀ (l : List β) (i : Nat), L.get? l i = l[i]?
  | [], _ => by simp [L.get?]
  | _ :: _, 0 => by simp [L.get?]
  | _ :: ys, n+1 => by simp [L.get?, get?_eq ys n]

theorem get_ok_iff {l : List β} {i : Nat} {v : β} : L.get l i = .ok v ↔ l[i]? = some v := by
  simp only [L.get, get?_eq]
  cases l[i]? <;> simp

theorem get_error {l : List β} {i : Nat} {e : Err} (h : L.get l i = .error e) : e = .index := by
  unfold L.get at h
  split at h
  · cases h
  · cases h
    rfl

theorem get_map (g : β → γ) (l : List β) (i : Nat) :
    L.get (l.map g) i = match L.get l i with | .ok v => .ok (g v) | .error e => .error e := by
  simp only [L.get, get?_eq, List.getElem?_map]
  cases l[i]? <;> rfl

theorem get_append_cons {pa : List β} {x : β} {rest : List β} {k : Nat} (h : pa.length = k) :
    L.get (pa ++ x :: rest) k = .ok x := by
  subst h
  simp [L.get, get?_eq]

theorem get_append_ok {l l' : List β} {i : Nat} {v : β} (h : L.get l i = .ok v) :
    L.get (l ++ l') i = .ok v := by
  rw [get_ok_iff] at h ⊢
  rw [List.getElem?_append_left (List.getElem?_eq_some_iff.mp h).1, h]

theorem get_last_iff {l : List β} {y : β} {i : Nat} (h : i + 1 = l.length) : L.get l i = .ok y ↔ l.getLast? = some y := by
  rw [get_ok_iff, List.getLast?_eq_getElem?, ← h, Nat.add_sub_cancel]

theorem getLast?_append_of_cons {A l : List β} {a z : β} (hA : A.getLast? = some a) (h : (a :: l).getLast? = some z) :
    (A ++ l).getLast? = some z := by
  rw [List.getLast?_append, hA, ← h, List.getLast?_cons]
  cases l.getLast? <;> rfl

theorem drop_cons {l : List β} {k : Nat} {x : β} {rest : List β} (h : l.drop k = x :: rest) :
    l[k]? = some x ∧ l.drop (k + 1) = rest := by
  constructor
  · rw [← Nat.add_zero k, ← List.getElem?_drop, h]
    rfl
  · rw [← List.drop_drop, h]
    rfl

theorem getLast?_of_succ_none {l : List β} {j : Nat} {d : β} (hd : l[j]? = some d) (hn : l[j + 1]? = none) :
    l.getLast? = some d := by
  obtain ⟨h1, _⟩ := List.getElem?_eq_some_iff.mp hd
  have hlen : j + 1 = l.length := Nat.le_antisymm h1 (List.getElem?_eq_none_iff.mp hn)
  rw [List.getLast?_eq_getElem?, ← hlen, Nat.add_sub_cancel]
  exact hd

theorem forall_getElem?_cons {x : β} {l : List β} {Q : Nat → β → Prop}
    (h0 : Q 0 x) (hs : ∀ j c, l[j]? = some c → Q (j + 1) c) : ∀ j c, (x :: l)[j]? = some c → Q j c
  | 0, c, hc => by
    rw [List.getElem?_cons_zero, Option.some.injEq] at hc
    exact hc ▸ h0
  | j + 1, c, hc => hs j c (by rwa [List.getElem?_cons_succ] at hc)

theorem zip_range'_append {β : Type} (A B : List β) (k : Nat) :
    List.zip (List.range' k (A ++ B).length) (A ++ B) =
      List.zip (List.range' k A.length) A ++ List.zip (List.range' (k + A.length) B.length) B := by
  rw [List.length_append, ← List.range'_append_1, List.zip_append (by simp)]

theorem zip_range'_snoc {β : Type} (A : List β) (x : β) (k : Nat) :
    List.zip (List.range' k (A ++ [x]).length) (A ++ [x]) = List.zip (List.range' k A.length) A ++ [(k + A.length, x)] := by
  rw [zip_range'_append]
  rfl

theorem forall_getElem?_map {F : β → γ} {l : List β} {Q : Nat → γ → Prop}
    (h : ∀ j d, l[j]? = some d → Q j (F d)) : ∀ j c, (l.map F)[j]? = some c → Q j c := by
  intro j c hc
  rw [List.getElem?_map, Option.map_eq_some_iff] at hc
  obtain ⟨d, hd, rfl⟩ := hc
  exact h j d hd

theorem modAt_eq_modify (f : β → β) : ∀ (l : List β) (i : Nat), modAt f l i = l.modify i f
  | [], _ => by simp [modAt]
  | _ :: _, 0 => by simp [modAt]
  | _ :: ys, n+1 => by simp [modAt, modAt_eq_modify f ys n]

theorem length_modAt (f : β → β) (l : List β) (i : Nat) : (modAt f l i).length = l.length := by
  rw [modAt_eq_modify, List.length_modify]

theorem get?_modAt_same {f : β → β} {l : List β} {i : Nat} : get? (modAt f l i) i = (get? l i).map f := by
  simp [get?_eq, modAt_eq_modify]

theorem get?_modAt_other {f : β → β} {l : List β} {i j : Nat} (h : i ≠ j) : get? (modAt f l i) j = get? l j := by
  simp [get?_eq, modAt_eq_modify, h]

theorem get_modAt_same {f : β → β} {l : List β} {i : Nat} {v : β} (h : L.get l i = .ok v) :
    L.get (modAt f l i) i = .ok (f v) := by
  rw [get_ok_iff, ← get?_eq] at h ⊢
  rw [get?_modAt_same, h]
  rfl

theorem getD_modAt (f : β → β) (l : List β) (i j : Nat) (d : β) :
    (modAt f l i).getD j d = if i = j ∧ j < l.length then f (l.getD j d) else l.getD j d := by
  rw [modAt_eq_modify, List.getD_eq_getElem?_getD, List.getD_eq_getElem?_getD, List.getElem?_modify]
  by_cases hl : j < l.length
  · rw [List.getElem?_eq_getElem hl]
    split <;> simp [*]
  · rw [List.getElem?_eq_none (Nat.le_of_not_lt hl)]
    split <;> simp [*]

/-! ### `getD`, and the nested readers through it

`getD_map_range` and `getD_replicate` speak of `l[j]?.getD d`, the form the padding lemmas of C02 (`padRow_getD`,
`padChannel_getD`) produce; the others of `List.getD` (`List.getD_eq_getElem?_getD` turns the second into the first). -/

theorem ext_getD (d : β) {a b : List β} (n : Nat) (ha : a.length = n) (hb : b.length = n)
    (h : ∀ i < n, a.getD i d = b.getD i d) : a = b := by
  apply List.ext_getElem (ha.trans hb.symm)
  intro i h1 h2
  have := h i (ha ▸ h1)
  rwa [List.getD_eq_getElem?_getD, List.getD_eq_getElem?_getD, List.getElem?_eq_getElem h1,
    List.getElem?_eq_getElem h2] at this

theorem getD_map_range (f : Nat → β) (n j : Nat) (d : β) :
    ((List.range n).map f)[j]?.getD d = if j < n then f j else d := by
  rw [List.getElem?_map]
  split <;> simp [*]

theorem getD_replicate (n j : Nat) (d : β) : (List.replicate n d)[j]?.getD d = d := by
  rw [List.getElem?_replicate]; split <;> rfl

theorem getD_take_drop {l : List β} {p n i : Nat} {d : β} (hi : i < n) :
    ((l.drop p).take n).getD i d = l.getD (p + i) d := by
  simp only [List.getD_eq_getElem?_getD, List.getElem?_take, hi, if_true, List.getElem?_drop]

theorem get3D_eq (d : β) (v : List (List (List β))) (c i j : Nat) :
    get3D d v c i j = (((v.getD c []).getD i []).getD j d) := by
  unfold get3D
  simp only [get?_eq, List.getD_eq_getElem?_getD]
  cases h1 : v[c]? with
  | none => simp
  | some m =>
    simp only [Option.getD_some]
    cases h2 : m[i]? with
    | none => simp
    | some r => simp

theorem get3D_nil (d : β) (c i j : Nat) : get3D d [] c i j = d := rfl

theorem get4D_eq (d : β) (v : List (List (List (List β)))) (f c i j : Nat) :
    get4D d v f c i j = get3D d (v.getD f []) c i j := by
  unfold get4D
  rw [get?_eq, List.getD_eq_getElem?_getD]
  cases v[f]? with
  | none => rw [Option.getD_none, get3D_nil]
  | some t => simp

/-- `List.foldlRecOn` with the property explicit (as a term, its motive is inferred wrongly in the shape proofs of `Proofs/Dims.lean`) -/
theorem foldl_inv {σ : Type} (P : σ → Prop) {step : σ → γ → σ} {ts : List γ} {s : σ} (h0 : P s)
    (hstep : ∀ s, P s → ∀ t ∈ ts, P (step s t)) : P (ts.foldl step s) :=
  List.foldlRecOn ts step h0 hstep

theorem foldl_visited {σ : Type} (R : γ → σ → Prop) (step : σ → γ → σ)
    (hkeep : ∀ t s t', R t s → R t (step s t')) (hnew : ∀ s t, R t (step s t)) (ts : List γ) :
    ∀ (s : σ), ∀ t ∈ ts, R t (ts.foldl step s) := by
  induction ts with
  | nil => intro s t ht; cases ht
  | cons a ts ih =>
    intro s t ht
    rw [List.foldl_cons]
    rcases List.mem_cons.mp ht with rfl | ht
    · exact foldl_inv (R t) (hnew s t) fun s hs t' _ => hkeep t s t' hs
    · exact ih _ t ht

theorem foldl_congr_mem {σ : Type} {f g : σ → γ → σ} {ls : List γ} (h : ∀ b ∈ ls, ∀ s, f s b = g s b) (s : σ) :
    ls.foldl f s = ls.foldl g s := by
  induction ls generalizing s with
  | nil => rfl
  | cons b ls ih =>
    rw [List.foldl_cons, List.foldl_cons, h b List.mem_cons_self s, ih (fun b' hb' => h b' (List.mem_cons_of_mem _ hb'))]

theorem foldl_zip_map_congr {σ : Type} (step step' : σ → Nat × β → σ) (g : β → β) (ls : List β) {is : List Nat} {s : σ}
    (h : ∀ l ∈ ls, ∀ i s, step' s (i, g l) = step s (i, l)) :
    (List.zip is (ls.map g)).foldl step' s = (List.zip is ls).foldl step s := by
  rw [List.zip_map_right, List.foldl_map]
  exact foldl_congr_mem (fun il hil s => h il.2 (List.of_mem_zip hil).2 il.1 s) s

theorem foldl_pair {σ τ : Type} {F : σ → γ → σ} {G : τ → γ → τ} {us : List γ} (ab : σ × τ) :
    us.foldl (fun acc u => (F acc.1 u, G acc.2 u)) ab = (us.foldl F ab.1, us.foldl G ab.2) := by
  induction us generalizing ab with
  | nil => rfl
  | cons u us ih => exact ih _

theorem foldl_error {σ ε : Type} {step : Except ε σ → γ → Except ε σ}
    (h : ∀ e a, step (.error e) a = .error e) {e : ε} {l : List γ} :
    l.foldl step (.error e) = .error e :=
  foldl_inv (· = Except.error e) rfl fun s hs a _ => by rw [hs, h]

theorem foldl_ok_sum {ε : Type} {g : Except ε Nat → γ → Except ε Nat} (n : γ → Nat) {ls : List γ}
    (hg : ∀ a, ∀ l ∈ ls, g (.ok a) l = .ok (a + n l)) (a : Nat) :
    ls.foldl g (.ok a) = .ok (a + (ls.map n).sum) := by
  induction ls generalizing a with
  | nil => rfl
  | cons l t ih =>
    rw [List.foldl_cons, hg a l (List.mem_cons_self ..), ih fun a x hx => hg a x (List.mem_cons_of_mem _ hx),
      List.map_cons, List.sum_cons, Nat.add_assoc]

/-! ### a list repeated `k` times, as `Feedback::create` unrolls a block's layers -/

theorem unroll_eq_flatten (k : Nat) (ls : List β) :
    (List.range k).flatMap (fun _ => ls) = (List.replicate k ls).flatten := by
  rw [List.flatMap_def, List.map_const', List.length_range]

theorem unroll_length (k : Nat) (ls : List β) :
    ((List.range k).flatMap (fun _ => ls)).length = k * ls.length := by
  rw [unroll_eq_flatten, List.length_flatten, List.map_replicate, List.sum_replicate_nat]

theorem unroll_fold {σ : Type} (step : σ → Nat × β → σ) (ls : List β) (k p : Nat) (s : σ) :
    (List.zip (List.range' p ((k + 1) * ls.length)) ((List.range (k + 1)).flatMap (fun _ => ls))).foldl step s =
      (List.zip (List.range' (p + ls.length) (k * ls.length)) ((List.range k).flatMap (fun _ => ls))).foldl step
        ((List.zip (List.range' p ls.length) ls).foldl step s) := by
  rw [List.range_succ_eq_map, List.flatMap_cons, List.flatMap_map, Nat.succ_mul, Nat.add_comm (k * _),
    ← List.range'_append_1, List.zip_append (by simp), List.foldl_append]

theorem mapM'_append {ε : Type} (f : β → Except ε γ) (a b : List β) :
    mapM' f (a ++ b) = (match mapM' f a with
      | .error e => .error e
      | .ok ra => match mapM' f b with
        | .error e => .error e
        | .ok rb => .ok (ra ++ rb)) := by
  induction a with
  | nil => rw [List.nil_append]; cases mapM' f b <;> rfl
  | cons x xs ih =>
    simp only [List.cons_append, mapM', ih]
    cases f x with
    | error e => rfl
    | ok y =>
      cases mapM' f xs with
      | error e => rfl
      | ok ra => cases mapM' f b <;> rfl

theorem mapM'_cons_eq_ok {ε : Type} {f : β → Except ε γ} {x : β} {xs : List β} {r : List γ} :
    mapM' f (x :: xs) = .ok r ↔ ∃ y ys, f x = .ok y ∧ mapM' f xs = .ok ys ∧ r = y :: ys := by
  rw [mapM']
  cases f x with
  | error e => simp
  | ok y => cases mapM' f xs <;> simp [eq_comm]

theorem mapM'_length {ε : Type} (f : β → Except ε γ) (l : List β) (r : List γ) (h : mapM' f l = .ok r) :
    r.length = l.length := by
  induction l generalizing r with
  | nil => cases h; rfl
  | cons x xs ih =>
    obtain ⟨y, ys, _, hys, rfl⟩ := mapM'_cons_eq_ok.mp h
    rw [List.length_cons, List.length_cons, ih ys hys]

theorem mapM'_map_ok {ε : Type} (f : γ → Except ε β) (g : β → γ) (hf : ∀ b, f (g b) = .ok b) :
    ∀ l : List β, mapM' f (l.map g) = .ok l
  | [] => rfl
  | b :: l => by simp only [List.map_cons, mapM', hf, mapM'_map_ok f g hf l]

theorem mapM'_ok_mono {ε : Type} {f g : β → Except ε γ} (h : ∀ a v, f a = .ok v → g a = .ok v)
    {l : List β} {r : List γ} (hr : mapM' f l = .ok r) : mapM' g l = .ok r := by
  induction l generalizing r with
  | nil => exact hr
  | cons a l ih =>
    obtain ⟨y, ys, hy, hys, rfl⟩ := mapM'_cons_eq_ok.mp hr
    exact mapM'_cons_eq_ok.mpr ⟨y, ys, h a y hy, ih hys, rfl⟩

theorem mapM'_concat_ok {ε : Type} {f : β → Except ε γ} {l : List β} {r : List γ} {a : β} {v : γ}
    (hl : mapM' f l = .ok r) (ha : f a = .ok v) : mapM' f (l ++ [a]) = .ok (r ++ [v]) := by
  simp [mapM'_append, hl, mapM', ha]

/-- `flat_map` over groups, each group mapped in order, equals mapping the whole list in order -/
theorem mapM'_groups {ε : Type} (f : β → Except ε γ) (gs : List (List β)) :
    (match mapM' (fun g => mapM' f g) gs with
      | .ok rs => Except.ok rs.flatten
      | .error e => .error e) = mapM' f gs.flatten := by
  induction gs with
  | nil => rfl
  | cons g gs ih =>
    simp only [mapM', List.flatten_cons]
    rw [mapM'_append, ← ih]
    cases mapM' f g with
    | error e => rfl
    | ok rg => cases mapM' (fun g => mapM' f g) gs <;> rfl

end L

/-! ### association lists (the model's `HashMap`s): `Assoc.find?` is `List.lookup` -/

namespace Assoc
variable {β : Type}

theorem find?_eq_lookup (m : List (Nat × β)) (k : Nat) : find? m k = m.lookup k := by
  induction m with
  | nil => rfl
  | cons e rest ih =>
    obtain ⟨k', v⟩ := e
    rw [find?, List.lookup_cons, ih]
    by_cases h : k' = k
    · rw [if_pos h, h, beq_self_eq_true]
    · rw [if_neg h, beq_false_of_ne (Ne.symm h)]

theorem find?_append (a b : List (Nat × β)) (k : Nat) :
    find? (a ++ b) k = (find? a k).or (find? b k) := by
  simp only [find?_eq_lookup, List.lookup_append]

theorem mem_of_find?_eq_some {c : List (Nat × β)} {t : Nat} {s : β} (h : find? c t = some s) : (t, s) ∈ c := by
  obtain ⟨l₁, l₂, rfl, _⟩ := List.lookup_eq_some_iff.mp (find?_eq_lookup c t ▸ h)
  exact List.mem_append_right _ List.mem_cons_self

theorem find?_none {c : List (Nat × β)} {t : Nat} (h : t ∉ c.map Prod.fst) : find? c t = none := by
  rw [find?_eq_lookup, List.lookup_eq_none_iff]
  exact fun p hp => bne_iff_ne.mpr fun e => h (e ▸ List.mem_map_of_mem hp)

theorem find?_eq_some_of_mem {c : List (Nat × β)} (hc : (c.map Prod.fst).Nodup) {t : Nat} {s : β} (h : (t, s) ∈ c) :
    find? c t = some s := by
  obtain ⟨l₁, l₂, rfl⟩ := List.append_of_mem h
  rw [List.map_append, List.nodup_append] at hc
  rw [find?_eq_lookup, List.lookup_eq_some_iff]
  exact ⟨l₁, l₂, rfl, fun p hp => bne_iff_ne.mpr fun e =>
    hc.2.2 p.1 (List.mem_map_of_mem hp) t List.mem_cons_self e.symm⟩

theorem find?_map_const (srcs : List Nat) (v : β) (k : Nat) :
    find? (srcs.map (fun t => (t, v))) k = if k ∈ srcs then some v else none := by
  induction srcs with
  | nil => rfl
  | cons s rest ih =>
    simp only [List.map_cons, find?, List.mem_cons, ih]
    by_cases h : s = k
    · simp [h]
    · simp [h, Ne.symm h]

theorem find?_insert_same {m : List (Nat × β)} {k : Nat} {v : β} :
    find? (insert m k v) k = some v := by
  induction m with
  | nil => simp [insert, find?]
  | cons e rest ih =>
    obtain ⟨k', v'⟩ := e
    simp only [insert]
    split
    · simp [find?]
    · rename_i hne
      simp only [find?, hne, if_false]
      exact ih

theorem find?_insert_other {m : List (Nat × β)} {k k2 : Nat} {v : β} (h : k ≠ k2) :
    find? (insert m k v) k2 = find? m k2 := by
  induction m with
  | nil => simp [insert, find?, h]
  | cons e rest ih =>
    obtain ⟨k', v'⟩ := e
    simp only [insert]
    split
    · rename_i heq
      subst heq
      simp [find?, h]
    · simp only [find?]
      split
      · rfl
      · exact ih

end Assoc
