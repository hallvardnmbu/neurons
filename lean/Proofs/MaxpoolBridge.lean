import Proofs.MaxpoolVJP
import Proofs.Encodings
import Props.C02
import Props.C08

/-!
# `Maxpool.forward` / `Maxpool.backward` of the model on `I3`-indexed vectors (C01)
-/

open Finset BigOperators

namespace MaxpoolBridge
open VJP ConvVJP ConvBridge MaxpoolVJP L Scalar RealScalar

variable {ic ih iw oh ow : ℕ}

/-- the model layer is a max-pool with announced shapes `ic × ih × iw → ic × oh × ow` following the size
    formula, outside loop connections -/
structure IsPool (l : Maxpool ℝ) (ic ih iw oh ow : ℕ) : Prop where
  inputs : l.inputs = .triple ic ih iw
  outputs : l.outputs = .triple ic oh ow
  s0 : 0 < l.stride.1
  s1 : 0 < l.stride.2
  kh : l.kernel.1 ≤ ih
  kw : l.kernel.2 ≤ iw
  oh_eq : oh = (ih - l.kernel.1) / l.stride.1 + 1
  ow_eq : ow = (iw - l.kernel.2) / l.stride.2 + 1
  loops : l.loops = 1
  pos : 0 < ic ∧ 0 < ih ∧ 0 < iw

theorem IsPool.oh_pos {l : Maxpool ℝ} (hl : IsPool l ic ih iw oh ow) : 0 < oh := by
  rw [hl.oh_eq]
  exact Nat.succ_pos _

/-- the pooled value at `(c, i, j)`: the scan of the window that starts at `(i·s₀, j·s₁)` -/
noncomputable def poolFn (l : Maxpool ℝ) (ih iw oh ow : ℕ) (x : V (I3 ic ih iw)) : V (I3 ic oh ow) := fun q =>
  (Maxpool.window l (toList3 x) q.1.val (q.2.1.val * l.stride.1) (q.2.2.val * l.stride.2) ih iw).1

/-- the recorded arg-max positions -/
noncomputable def idxOf (l : Maxpool ℝ) (ih iw oh ow : ℕ) (x : V (I3 ic ih iw)) : MaxIdx :=
  (Maxpool.pool l (toList3 x) ih iw ic oh ow (L.stepBy (ih - l.kernel.1 + 1) l.stride.1)
    (L.stepBy (iw - l.kernel.2 + 1) l.stride.2)).2

theorem fit {s a oh : ℕ} (hoh : oh = a / s + 1) : ∀ h ∈ L.stepBy (a + 1) s, h / s < oh := by
  intro h hh
  rw [MaxpoolForward.mem_stepBy] at hh
  rw [hoh]
  exact Nat.lt_succ_of_le (Nat.div_le_div_right (Nat.le_of_lt_succ hh.1))

theorem fit_any {s a oh : ℕ} (hoh : oh = a / s + 1) : (L.stepBy (a + 1) s).any (fun h => decide (h / s ≥ oh)) = false := by
  rw [List.any_eq_false]
  intro h hh
  simpa using fit hoh h hh

theorem fits_window {s a oh i : ℕ} (hoh : oh = a / s + 1) (hi : i < oh) : i * s ≤ a := by
  rw [hoh] at hi
  exact Nat.mul_le_of_le_div _ _ _ (Nat.le_of_lt_succ hi)

theorem pool_get (l : Maxpool ℝ) (hl : IsPool l ic ih iw oh ow) (X : V3 ℝ) (c i j : ℕ) (hc : c < ic) (hi : i < oh) (hj : j < ow) :
    L.get3D 0 (Maxpool.pool l X ih iw ic oh ow (L.stepBy (ih - l.kernel.1 + 1) l.stride.1)
      (L.stepBy (iw - l.kernel.2 + 1) l.stride.2)).1 c i j = (Maxpool.window l X c (i * l.stride.1) (j * l.stride.2) ih iw).1 ∧
    L.get3D [] (Maxpool.pool l X ih iw ic oh ow (L.stepBy (ih - l.kernel.1 + 1) l.stride.1)
      (L.stepBy (iw - l.kernel.2 + 1) l.stride.2)).2 c i j = [(Maxpool.window l X c (i * l.stride.1) (j * l.stride.2) ih iw).2] := by
  have hfh := fit hl.oh_eq
  have hfw := fit hl.ow_eq
  have hi' := fits_window hl.oh_eq hi
  have hj' := fits_window hl.ow_eq hj
  refine ⟨C02.maxpool_output_is_window_scan l X ih iw ic oh ow _ _ hl.s0 hl.s1 hfh hfw c i j hc hi' hj', ?_⟩
  rw [MaxpoolForward.pool_eq]
  exact MaxpoolForward.strided_assign_get [] (fun c h w => [(Maxpool.window l X c h w ih iw).2]) _ _ ic oh ow _ _ _
    hl.s0 hl.s1 hfh hfw c i j hc hi' hj'

theorem idxOf_get (l : Maxpool ℝ) (hl : IsPool l ic ih iw oh ow) (x : V (I3 ic ih iw)) (c i j : ℕ)
    (hc : c < ic) (hi : i < oh) (hj : j < ow) :
    L.get3D [] (idxOf l ih iw oh ow x) c i j = [(Maxpool.window l (toList3 x) c (i * l.stride.1) (j * l.stride.2) ih iw).2] :=
  (pool_get l hl (toList3 x) c i j hc hi hj).2

theorem pool_fst_eq (l : Maxpool ℝ) (hl : IsPool l ic ih iw oh ow) (x : V (I3 ic ih iw)) :
    (Maxpool.pool l (toList3 x) ih iw ic oh ow (L.stepBy (ih - l.kernel.1 + 1) l.stride.1)
      (L.stepBy (iw - l.kernel.2 + 1) l.stride.2)).1 = toList3 (poolFn l ih iw oh ow x) := by
  apply dims3_ext (Dims.maxpool_pool_dims l _ ih iw ic oh ow _ _).1 (toList3_dims _)
  intro c i j hc hi hj
  rw [(pool_get l hl _ c i j hc hi hj).1, get3D_toList3, dif_pos ⟨hc, hi, hj⟩]
  rfl

theorem forward_gen (l : Maxpool ℝ) (hl : IsPool l ic ih iw oh ow) (x : V (I3 ic ih iw)) :
    l.forward (T3 x) = match (if l.flatten then (T3 (poolFn l ih iw oh ow x)).flatten else .ok (T3 (poolFn l ih iw oh ow x))) with
      | .error e => .error e
      | .ok post => .ok (T3 (poolFn l ih iw oh ow x), post, idxOf l ih iw oh ow x) := by
  obtain ⟨hic, hih, hiw⟩ := hl.pos
  unfold Maxpool.forward
  rw [entry_T3 x hic hih, hl.outputs]
  simp only [checkedSub_of_le hl.kh, checkedSub_of_le hl.kw]
  rw [if_neg (not_or.mpr ⟨hl.s0.ne', hl.s1.ne'⟩)]
  rw [if_neg (by
    rw [(toList3_dims x).1, fit_any hl.oh_eq, fit_any hl.ow_eq]
    simp only [gt_iff_lt, lt_self_iff_false, Bool.false_eq_true, or_self, and_false, not_false_eq_true])]
  simp only [pool_fst_eq l hl x, triple_toList3 _ hic hl.oh_pos, idxOf]
  generalize (if l.flatten = true then _ else _) = post
  cases post <;> rfl

theorem get?_chain {β : Type} (d : β) (t : List (List (List β))) (c h w a i j : ℕ) (ht : Dims3 t c h w)
    (ha : a < c) (hi : i < h) (hj : j < w) :
    ∃ mc mh v, L.get? t a = some mc ∧ L.get? mc i = some mh ∧ L.get? mh j = some v ∧ L.get3D d t a i j = v := by
  have h1 : a < t.length := by rw [ht.1]; exact ha
  have hmc := ht.2 t[a] (List.getElem_mem _)
  have h2 : i < t[a].length := by rw [hmc.1]; exact hi
  have hmh := hmc.2 t[a][i] (List.getElem_mem _)
  have h3 : j < t[a][i].length := by rw [hmh]; exact hj
  refine ⟨t[a], t[a][i], t[a][i][j], ?_, ?_, ?_, ?_⟩
  · rw [L.get?_eq, List.getElem?_eq_getElem h1]
  · rw [L.get?_eq, List.getElem?_eq_getElem h2]
  · rw [L.get?_eq, List.getElem?_eq_getElem h3]
  · unfold L.get3D
    simp only [L.get?_eq, List.getElem?_eq_getElem h1, List.getElem?_eq_getElem h2, List.getElem?_eq_getElem h3,
      Option.getD_some]

theorem idx_in_bounds (l : Maxpool ℝ) (hl : IsPool l ic ih iw oh ow) (x : V (I3 ic ih iw)) (c i j : ℕ)
    (hc : c < ic) (hi : i < oh) (hj : j < ow) :
    ∀ q ∈ L.get3D [] (idxOf l ih iw oh ow x) c i j, q.1 < ih ∧ q.2 < iw := by
  obtain ⟨hic, hih, hiw⟩ := hl.pos
  intro q hq
  rw [idxOf_get l hl x c i j hc hi hj, List.mem_singleton] at hq
  subst hq
  rcases C02.maxpool_window_attained l (toList3 x) c (i * l.stride.1) (j * l.stride.2) ih iw with h | ⟨k, li, _, _, h1, h2, h3, _⟩
  · rw [h]; exact ⟨hih, hiw⟩
  · rw [h3]; exact ⟨h1, h2⟩

theorem backward_eq (l : Maxpool ℝ) (hl : IsPool l ic ih iw oh ow) (x : V (I3 ic ih iw)) (g : V (I3 ic oh ow))
    (G : Tensor ℝ) (hG : G.getTriple l.outputs = .ok (toList3 g)) :
    l.backward G (idxOf l ih iw oh ow x) = .ok (T3 (routeV l (idxOf l ih iw oh ow x) ic ih iw oh ow g)) := by
  obtain ⟨hic, hih, hiw⟩ := hl.pos
  unfold Maxpool.backward
  rw [hG, hl.inputs]
  simp only []
  obtain ⟨r, m, rest, he, h1, h2⟩ := dims3_cons (toList3_dims g) hic hl.oh_pos
  have hroute := triple_of_get
    (Dims.maxpool_route_dims l (idxOf l ih iw oh ow x) (toList3 g) (Maxpool.positions ic oh ow) ic ih iw) hic hih
  generalize hX : toList3 g = X at he hroute ⊢
  subst he
  simp only [h1, h2]
  rw [if_neg, hroute, ← hX]
  · rfl
  rw [Bool.not_eq_true, List.any_eq_false]
  intro p hp
  obtain ⟨c, i, j⟩ := p
  obtain ⟨hc, hi, hj⟩ := (mem_positions ic oh ow _).mp hp
  obtain ⟨mc, mh, v, e1, e2, e3, e4⟩ := get?_chain ([] : List (ℕ × ℕ)) (idxOf l ih iw oh ow x) ic oh ow c i j
    (Dims.maxpool_pool_dims l _ ih iw ic oh ow _ _).2 hc hi hj
  simp only [e1, e2, e3]
  have hin := idx_in_bounds l hl x c i j hc hi hj
  rw [e4] at hin
  have hg : (L.get? ((r :: m) :: rest) c).isNone = false := by
    rw [← hX, L.get?_eq, List.getElem?_eq_getElem (by rw [(toList3_dims g).1]; exact hc)]
    rfl
  simp only [hg, Bool.or_false, Bool.not_eq_true]
  rw [List.any_eq_false]
  intro q hq
  simpa only [ge_iff_le, decide_eq_true_eq, not_or, not_le] using hin q hq

end MaxpoolBridge
