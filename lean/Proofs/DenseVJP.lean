import Proofs.VJP

/-!
# The dense layer as a vector function: its three transposed Jacobians (C01, C16)

`densePre W b x = W·x + b`, `denseFn a W b x = a ∘ (W·x + b)`.  With `δ = a'(pre) ⊙ g`:
the gradient with respect to the input is `Wᵀ δ`, with respect to the weights `δ ⊗ x`, with respect to
the bias `δ` — *provided the activation is differentiable at every pre-activation* (away from kinks).
-/

open BigOperators

namespace VJP

variable {r c : ℕ}

def densePre (W : V (Fin r × Fin c)) (b : Vec r) (x : Vec c) : Vec r := fun i => (∑ j, W (i, j) * x j) + b i

def denseFn (a : ℝ → ℝ) (W : V (Fin r × Fin c)) (b : Vec r) (x : Vec c) : Vec r := fun i => a (densePre W b x i)

/-- `δ = a'(pre) ⊙ g` on `Vec r`; the spatial layers have `ConvBridge.delta` -/
def delta (a' : ℝ → ℝ) (pre g : Vec r) : Vec r := fun i => a' (pre i) * g i

def inputGrad (W : V (Fin r × Fin c)) (d : Vec r) : Vec c := fun j => ∑ i, W (i, j) * d i
def weightGrad (d : Vec r) (x : Vec c) : V (Fin r × Fin c) := fun ij => d ij.1 * x ij.2

/-- the pre-activation is affine in the input, in the weights and in the bias; the three adjoint
    identities are re-orderings of one double sum -/
theorem densePre_isVJP_x (W : V (Fin r × Fin c)) (b : Vec r) (x : Vec c) : IsVJP (densePre W b) x (inputGrad W) := by
  refine (IsVJP.of_adjoint (fun x : Vec c => fun i => ∑ j, W (i, j) * x j) (inputGrad W) (fun g v => ?_) x).add_const b
  simp only [dot, inputGrad, Finset.sum_mul, Finset.mul_sum]
  rw [Finset.sum_comm]
  apply Finset.sum_congr rfl; intro i _
  apply Finset.sum_congr rfl; intro j _
  ring

theorem densePre_isVJP_W (W : V (Fin r × Fin c)) (b : Vec r) (x : Vec c) :
    IsVJP (fun W => densePre W b x) W (fun d => weightGrad d x) := by
  refine (IsVJP.of_adjoint (fun W : V (Fin r × Fin c) => fun i => ∑ j, W (i, j) * x j) (fun d => weightGrad d x)
    (fun g v => ?_) W).add_const b
  simp only [dot, weightGrad, Fintype.sum_prod_type, Finset.mul_sum]
  apply Finset.sum_congr rfl; intro i _
  apply Finset.sum_congr rfl; intro j _
  ring

theorem densePre_isVJP_b (W : V (Fin r × Fin c)) (b : Vec r) (x : Vec c) :
    IsVJP (fun b => densePre W b x) b (fun d => d) :=
  ⟨ContinuousLinearMap.id ℝ _, (hasFDerivAt_id b).const_add _, fun _ _ => rfl⟩

/-- input gradient: `Wᵀ (a'(pre) ⊙ g)` -/
theorem dense_vjp_input (a a' : ℝ → ℝ) (W : V (Fin r × Fin c)) (b : Vec r) (x : Vec c)
    (ha : ∀ i, HasDerivAt a (a' (densePre W b x i)) (densePre W b x i)) :
    IsVJP (denseFn a W b) x (fun g => inputGrad W (delta a' (densePre W b x) g)) :=
  ConvVJP.isVJP_elementwise _ x _ a a' (densePre_isVJP_x W b x) ha

theorem dense_vjp_weights (a a' : ℝ → ℝ) (W : V (Fin r × Fin c)) (b : Vec r) (x : Vec c)
    (ha : ∀ i, HasDerivAt a (a' (densePre W b x i)) (densePre W b x i)) :
    IsVJP (fun W => denseFn a W b x) W (fun g => weightGrad (delta a' (densePre W b x) g) x) :=
  ConvVJP.isVJP_elementwise _ W _ a a' (densePre_isVJP_W W b x) ha

theorem dense_vjp_bias (a a' : ℝ → ℝ) (W : V (Fin r × Fin c)) (b : Vec r) (x : Vec c)
    (ha : ∀ i, HasDerivAt a (a' (densePre W b x i)) (densePre W b x i)) :
    IsVJP (fun b => denseFn a W b x) b (fun g => delta a' (densePre W b x) g) :=
  ConvVJP.isVJP_elementwise _ b _ a a' (densePre_isVJP_b W b x) ha

end VJP
