import Proofs.Encodings
import Proofs.DenseVJP

/-!
# The model's dense layer on lists is the vector function `denseFn`, its backward the three
transposed Jacobians (C01, C16)
-/

open BigOperators

namespace DenseBridge
open VJP Scalar RealScalar

variable {r c : ℕ}

/-- the layer holds the matrix `W`, the bias `b`, the activation `a`; it is in evaluation mode (no
    dropout mask) and not inside a loop connection (gradient scale `1`) -/
structure IsDense (l : DenseLayer ℝ) (a : Act) (W : V (Fin r × Fin c)) (b : Vec r) : Prop where
  weights : l.weights = matT W
  bias : l.bias = some (vecT b)
  act : l.act = a
  eval : l.training = false
  scale : l.scale l.loops = 1

theorem dotRow_ofFn (row x : Vec c) : Tensor.dotRow (List.ofFn row) (List.ofFn x) = ∑ j, row j * x j := by
  unfold Tensor.dotRow
  rw [Folds.sumL_eq, OfFn.zipWith_ofFn, List.sum_ofFn]

theorem dot_matT_vecT (W : V (Fin r × Fin c)) (x : Vec c) :
    (matT W).dot (vecT x) = .ok (vecT (fun i => ∑ j, W (i, j) * x j)) := by
  simp only [Tensor.dot, matT, vecT, List.length_ofFn, List.map_ofFn, Function.comp_def, dotRow_ofFn]

/-- `Dense::forward` in evaluation mode, for whatever the activation returns on the pre-activation -/
theorem forward_of_act (l : DenseLayer ℝ) (a : Act) (W : V (Fin r × Fin c)) (b : Vec r) (hl : IsDense l a W b)
    (x : Vec c) (post : Tensor ℝ) (hact : Act.forward a (vecT (densePre W b x)) = .ok post) :
    l.forward (vecT x) = .ok (vecT (densePre W b x), post) := by
  unfold DenseLayer.forward
  rw [hl.weights, dot_matT_vecT, hl.bias]
  have hadd : (vecT (fun i => ∑ j, W (i, j) * x j)).add (vecT b) = .ok (vecT (densePre W b x)) := by
    simp only [Tensor.add, Tensor.zipOp, vecT, ne_eq, not_true_eq_false, ↓reduceIte, zip1_ofFn]
    rfl
  simp only [hadd, hl.act, hact, finish, hl.eval]
  rfl

theorem forward_eq (l : DenseLayer ℝ) (a : Act) (W : V (Fin r × Fin c)) (b : Vec r) (hl : IsDense l a W b)
    (ha : a ≠ .softmax) (x : Vec c) :
    l.forward (vecT x) = .ok (vecT (densePre W b x), vecT (denseFn (Act.f a) W b x)) :=
  forward_of_act l a W b hl x _ (act_forward_vecT a ha _)

theorem hadamard_vecT {n : ℕ} (a b : Vec n) (s : ℝ) :
    (vecT a).hadamard (vecT b) s = .ok (vecT (fun i => a i * b i * s)) := by
  simp only [Tensor.hadamard, Tensor.zipOp, vecT, ne_eq, not_true_eq_false, ↓reduceIte, zip1_ofFn]

theorem product_vecT (d : Vec r) (x : Vec c) (hr : 0 < r) :
    (vecT d).product (vecT x) = .ok (matT (weightGrad d x)) := by
  obtain ⟨r', rfl⟩ : ∃ r', r = r' + 1 := ⟨r - 1, (Nat.sub_add_cancel hr).symm⟩
  simp only [Tensor.product, vecT, matT, weightGrad]
  rw [List.ofFn_succ]
  simp only [List.length_cons, List.length_ofFn, List.map_cons, List.map_ofFn, Function.comp_def]
  congr 3
  rw [List.ofFn_succ]

theorem transpose_matT (W : V (Fin r × Fin c)) (hr : 0 < r) (hc : 0 < c) :
    (matT W).transpose = .ok (matT (fun ji : Fin c × Fin r => W (ji.2, ji.1))) := by
  unfold matT
  rw [Tensor.transpose_of_dims ⟨List.length_ofFn, List.forall_mem_ofFn_iff.mpr fun _ => List.length_ofFn⟩ hr hc,
    OfFn.map_range_eq_ofFn]
  refine congrArg (fun d => Except.ok (⟨.double c r, .double d⟩ : Tensor ℝ)) (congrArg List.ofFn (funext fun j => ?_))
  rw [List.map_ofFn]
  refine congrArg List.ofFn (funext fun i => ?_)
  simp only [Function.comp_def, L.get?_eq, OfFn.getElem?_ofFn_fin, Option.getD_some]

/-- `Dense::backward` for any local derivative `d` of the activation: with `δ = d ⊙ g` it returns `Wᵀδ`, `δ ⊗ x`, `δ` -/
theorem backward_of_local (l : DenseLayer ℝ) (a : Act) (W : V (Fin r × Fin c)) (b : Vec r) (hl : IsDense l a W b)
    (hr : 0 < r) (hc : 0 < c) (x : Vec c) (g : Vec r) (out : Tensor ℝ) (d : Vec r)
    (hloc : l.localDerivative out = .ok (vecT d)) :
    l.backward (vecT g) (vecT x) out =
      .ok (vecT (inputGrad W (fun i => d i * g i)), matT (weightGrad (fun i => d i * g i) x),
           some (vecT (fun i => d i * g i))) := by
  unfold DenseLayer.backward
  have hshape : (vecT g).shape = Shape.single r := rfl
  simp only [hshape, hloc, hadamard_vecT, hl.scale, mul_one, product_vecT _ _ hr, hl.weights, transpose_matT W hr hc,
    dot_matT_vecT, hl.bias, Option.map_some]
  rfl

theorem backward_eq (l : DenseLayer ℝ) (a : Act) (W : V (Fin r × Fin c)) (b : Vec r) (hl : IsDense l a W b)
    (ha : a ≠ .softmax) (hr : 0 < r) (hc : 0 < c) (x : Vec c) (g : Vec r) :
    l.backward (vecT g) (vecT x) (vecT (densePre W b x)) =
      .ok (vecT (inputGrad W (delta (Act.df a) (densePre W b x) g)),
           matT (weightGrad (delta (Act.df a) (densePre W b x) g) x),
           some (vecT (delta (Act.df a) (densePre W b x) g))) := by
  refine backward_of_local l a W b hl hr hc x g _ (fun i => Act.df a (densePre W b x i)) ?_
  unfold DenseLayer.localDerivative
  rw [hl.act]
  cases a <;> first | exact absurd rfl ha | exact act_backward_vecT _ (by simp) _

end DenseBridge
