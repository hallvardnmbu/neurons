import Proofs.VJP
import Proofs.Adjoint
import Proofs.Zip

/-!
# Nested lists and vectors on an index box

The model computes on nested lists, the calculus on vectors indexed by `I3 c h w = Fin c × Fin h × Fin w` (tensors) and
`I4 f c h w` (kernel tables).  `toList3` / `toList4` write a vector as the model's list, `rd3` / `rd4` read a list as a
vector (`0` outside the list); on lists with the box's extents the two are inverse.  A sum over the box is the nested
sum over `range`s (`sum_I3`, `sum_I4`), so the list inner products `ip3` / `ip4` are `dot` of the vectors read.
-/

open Finset BigOperators

namespace ConvVJP
open VJP Adjoint Adjoint4 L

abbrev I3 (c h w : ℕ) := Fin c × Fin h × Fin w

noncomputable def toList3 {c h w : ℕ} (v : V (I3 c h w)) : V3 ℝ :=
  List.ofFn fun a : Fin c => List.ofFn fun i : Fin h => List.ofFn fun j : Fin w => v (a, i, j)

theorem toList3_dims {c h w : ℕ} (v : V (I3 c h w)) : L.Dims3 (toList3 v) c h w := by
  simp only [L.Dims3, toList3, List.length_ofFn, List.forall_mem_ofFn_iff, true_and, implies_true]

theorem get3D_toList3 {c h w : ℕ} (v : V (I3 c h w)) (a i j : ℕ) :
    L.get3D 0 (toList3 v) a i j =
      if h' : a < c ∧ i < h ∧ j < w then v (⟨a, h'.1⟩, ⟨i, h'.2.1⟩, ⟨j, h'.2.2⟩) else 0 := by
  rw [L.get3D_eq]
  unfold toList3
  simp only [List.getD_eq_getElem?_getD, List.getElem?_ofFn]
  by_cases ha : a < c
  · by_cases hi : i < h
    · by_cases hj : j < w
      · simp [ha, hi, hj]
      · simp [ha, hi, hj]
    · simp [ha, hi]
  · simp [ha]

theorem get3D_toList3_fin {c h w : ℕ} (v : V (I3 c h w)) (p : I3 c h w) :
    L.get3D 0 (toList3 v) p.1 p.2.1 p.2.2 = v p := by
  simp [get3D_toList3]

theorem sum_I3 {c h w : ℕ} (F : ℕ → ℕ → ℕ → ℝ) :
    ∑ p : I3 c h w, F p.1 p.2.1 p.2.2 = ∑ a ∈ range c, ∑ i ∈ range h, ∑ j ∈ range w, F a i j := by
  simp only [Fintype.sum_prod_type, Finset.sum_range]

noncomputable def rd3 {c h w : ℕ} (A : V3 ℝ) : V (I3 c h w) := fun p => L.get3D 0 A p.1 p.2.1 p.2.2

theorem rd3_toList3 {c h w : ℕ} (v : V (I3 c h w)) : rd3 (toList3 v) = v := funext (get3D_toList3_fin v)

theorem dims3_ext {A B : V3 ℝ} {c h w : ℕ} (hA : Dims3 A c h w) (hB : Dims3 B c h w)
    (hget : ∀ a i j, a < c → i < h → j < w → get3D 0 A a i j = get3D 0 B a i j) : A = B := by
  refine ext_getD [] c hA.1 hB.1 fun a ha => ?_
  have hAa := L.dims_getD [] hA ha
  have hBa := L.dims_getD [] hB ha
  refine ext_getD [] h hAa.1 hBa.1 fun i hi => ?_
  refine ext_getD 0 w (L.dims_getD [] hAa hi) (L.dims_getD [] hBa hi) fun j hj => ?_
  rw [← L.get3D_eq, ← L.get3D_eq]
  exact hget a i j ha hi hj

theorem toList3_rd3 {A : V3 ℝ} {c h w : ℕ} (hA : Dims3 A c h w) : toList3 (rd3 A : V (I3 c h w)) = A := by
  apply dims3_ext (toList3_dims _) hA
  intro a i j ha hi hj
  rw [get3D_toList3, dif_pos ⟨ha, hi, hj⟩]
  rfl

theorem ip3_eq_dot (c h w : ℕ) (A B : V3 ℝ) : ip3 c h w A B = dot (rd3 (c := c) (h := h) (w := w) A) (rd3 B) :=
  (sum_I3 (fun a i j => L.get3D 0 A a i j * L.get3D 0 B a i j)).symm

theorem dot_rd3_left {c h w : ℕ} (A : V3 ℝ) (v : V (I3 c h w)) : dot (rd3 A) v = ip3 c h w A (toList3 v) := by
  rw [ip3_eq_dot, rd3_toList3]

theorem dot_rd3_right {c h w : ℕ} (g : V (I3 c h w)) (A : V3 ℝ) : dot g (rd3 A) = ip3 c h w (toList3 g) A := by
  rw [ip3_eq_dot, rd3_toList3]

theorem ip3_comm (C H W : ℕ) (a b : V3 ℝ) : ip3 C H W a b = ip3 C H W b a := by
  rw [ip3_eq_dot, ip3_eq_dot, dot_comm]

abbrev I4 (f c h w : ℕ) := Fin f × Fin c × Fin h × Fin w

noncomputable def toList4 {f c h w : ℕ} (K : V (I4 f c h w)) : List (V3 ℝ) :=
  List.ofFn fun a : Fin f => toList3 (fun cij : I3 c h w => K (a, cij))

theorem toList4_dims {f c h w : ℕ} (K : V (I4 f c h w)) : Dims4 (toList4 K) f c h w := by
  simp only [Dims4, toList4, List.length_ofFn, List.forall_mem_ofFn_iff, true_and]
  exact fun a => toList3_dims _

theorem get4D_toList4 {f c h w : ℕ} (K : V (I4 f c h w)) (a b i j : ℕ) :
    L.get4D 0 (toList4 K) a b i j =
      if h' : a < f ∧ b < c ∧ i < h ∧ j < w then K (⟨a, h'.1⟩, ⟨b, h'.2.1⟩, ⟨i, h'.2.2.1⟩, ⟨j, h'.2.2.2⟩) else 0 := by
  rw [L.get4D_eq]
  unfold toList4
  simp only [List.getD_eq_getElem?_getD, List.getElem?_ofFn]
  by_cases ha : a < f
  · simp only [ha, dite_true, Option.getD_some, get3D_toList3]
    by_cases hr : b < c ∧ i < h ∧ j < w
    · simp [hr]
    · simp [hr]
  · rw [dif_neg ha, Option.getD_none, L.get3D_nil, dif_neg fun h' => ha h'.1]

theorem get4D_toList4_fin {f c h w : ℕ} (K : V (I4 f c h w)) (q : I4 f c h w) :
    L.get4D 0 (toList4 K) q.1 q.2.1 q.2.2.1 q.2.2.2 = K q := by
  simp [get4D_toList4]

theorem sum_I4 {f c h w : ℕ} (F : ℕ → ℕ → ℕ → ℕ → ℝ) :
    ∑ q : I4 f c h w, F q.1 q.2.1 q.2.2.1 q.2.2.2 =
      ∑ a ∈ range f, ∑ b ∈ range c, ∑ i ∈ range h, ∑ j ∈ range w, F a b i j := by
  simp only [Fintype.sum_prod_type, Finset.sum_range]

noncomputable def rd4 {f c h w : ℕ} (A : V4 ℝ) : V (I4 f c h w) := fun q => L.get4D 0 A q.1 q.2.1 q.2.2.1 q.2.2.2

theorem rd4_toList4 {f c h w : ℕ} (K : V (I4 f c h w)) : rd4 (toList4 K) = K := funext (get4D_toList4_fin K)

theorem toList4_rd4 {A : V4 ℝ} {f c h w : ℕ} (hA : Dims4 A f c h w) : toList4 (rd4 A : V (I4 f c h w)) = A := by
  apply List.ext_getElem (by rw [(toList4_dims _).1, hA.1])
  intro a ha hb
  simp only [toList4, List.getElem_ofFn]
  refine Eq.trans (congrArg toList3 (funext fun cij => ?_)) (toList3_rd3 (hA.2 A[a] (List.getElem_mem _)))
  simp only [rd4, rd3, L.get4D_eq, List.getD_eq_getElem?_getD, List.getElem?_eq_getElem hb, Option.getD_some]

theorem ip4_eq_dot (f c h w : ℕ) (A B : V4 ℝ) :
    ip4 f c h w A B = dot (rd4 (f := f) (c := c) (h := h) (w := w) A) (rd4 B) :=
  (sum_I4 (fun a b i j => L.get4D 0 A a b i j * L.get4D 0 B a b i j)).symm

theorem dot_rd4_left {f c h w : ℕ} (A : V4 ℝ) (K : V (I4 f c h w)) : dot (rd4 A) K = ip4 f c h w A (toList4 K) := by
  rw [ip4_eq_dot, rd4_toList4]

end ConvVJP
