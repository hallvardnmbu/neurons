import Model.Scalar
import Mathlib.Analysis.SpecialFunctions.ExpDeriv
import Mathlib.Analysis.SpecialFunctions.Log.Deriv
import Mathlib.Analysis.SpecialFunctions.Trigonometric.DerivHyp
import Mathlib.Analysis.SpecialFunctions.Sqrt
import Mathlib.Analysis.SpecialFunctions.Pow.Real

/-!
# The model instantiated at `ℝ`

The theorems about numeric behaviour are statements about the *same* model definitions the driver
runs at `Float32`, instantiated at the real numbers.  `ℝ` has no NaN and no infinities:
`isNaN = false`, and `negInf`/`minVal` are an arbitrary real (the statements that involve them say so).
The choice `−2^128` shows in one place: the max-pool scan starts at `minVal`, `MaxpoolLocal.NoTies` asks every window
maximum to exceed it, so `MaxpoolLocal.pool_isVJP` is silent on inputs with a window at or below `−2^128`.
-/

noncomputable instance : Scalar ℝ where
  exp := Real.exp
  ln := Real.log
  sqrt := Real.sqrt
  tanh := Real.tanh
  cosh := Real.cosh
  powf := fun x y => x ^ y
  abs := fun x => |x|
  lt := fun a b => decide (a < b)
  beq := fun a b => decide (a = b)
  ofNat' := fun n => (n : ℝ)
  lit := fun m e => (m : ℝ) * (10 : ℝ) ^ e
  minVal := -(2 ^ 128 : ℝ)
  negInf := -(2 ^ 128 : ℝ)
  isNaN := fun _ => false
  toNat := fun x => ⌊x⌋₊

namespace RealScalar
open Scalar

@[simp] theorem lt_iff (a b : ℝ) : (Scalar.lt a b = true) ↔ a < b := by
  simp [Scalar.lt]
@[simp] theorem lt_false_iff (a b : ℝ) : (Scalar.lt a b = false) ↔ b ≤ a := by
  simp [Scalar.lt]
@[simp] theorem beq_iff (a b : ℝ) : (Scalar.beq a b = true) ↔ a = b := by
  simp [Scalar.beq]
@[simp] theorem le_iff (a b : ℝ) : (Scalar.le a b = true) ↔ a ≤ b := by
  simp [Scalar.le, le_iff_lt_or_eq]
@[simp] theorem isNaN_eq (a : ℝ) : Scalar.isNaN a = false := rfl
@[simp] theorem exp_eq (a : ℝ) : Scalar.exp a = Real.exp a := rfl
@[simp] theorem ln_eq (a : ℝ) : Scalar.ln a = Real.log a := rfl
@[simp] theorem sqrt_eq (a : ℝ) : Scalar.sqrt a = Real.sqrt a := rfl
@[simp] theorem tanh_eq (a : ℝ) : Scalar.tanh a = Real.tanh a := rfl
@[simp] theorem cosh_eq (a : ℝ) : Scalar.cosh a = Real.cosh a := rfl
@[simp] theorem abs_eq (a : ℝ) : Scalar.abs a = |a| := rfl
@[simp] theorem powf_eq (a b : ℝ) : Scalar.powf a b = a ^ b := rfl
@[simp] theorem ofNat_eq (n : ℕ) : (Scalar.ofNat' n : ℝ) = n := rfl
theorem lit_eq (m : ℕ) (e : ℤ) : (Scalar.lit m e : ℝ) = m * 10 ^ e := rfl

theorem lt_irrefl (a : ℝ) : Scalar.lt a a = false := by simp

theorem fmax_eq (a b : ℝ) : Scalar.fmax a b = max a b := by
  unfold Scalar.fmax
  by_cases h : a < b
  · simp [h, max_eq_right h.le]
  · simp [h, max_eq_left (not_lt.mp h)]

theorem clampRaw_eq (x lo hi : ℝ) (h : lo ≤ hi) : Scalar.clampRaw x lo hi = max lo (min x hi) := by
  unfold Scalar.clampRaw
  by_cases h1 : x < lo
  · have : ¬ hi < lo := not_lt.mpr h
    simp [h1, this, min_eq_left (h1.le.trans h), max_eq_left h1.le]
  · simp only [lt_iff, h1, if_false]
    by_cases h2 : hi < x
    · simp [h2, min_eq_right h2.le, max_eq_right h]
    · simp [h2, min_eq_left (not_lt.mp h2), max_eq_right (not_lt.mp h1)]

theorem sq_eq (x : ℝ) : Scalar.sq x = x ^ 2 := (pow_two x).symm

theorem two_eq : (Scalar.two : ℝ) = 2 := one_add_one_eq_two

theorem hasDerivAt_kink (c : ℝ) {x : ℝ} (hx : x ≠ 0) :
    HasDerivAt (fun y : ℝ => if 0 < y then y else c * y) (if 0 < x then 1 else c) x := by
  rcases lt_or_gt_of_ne hx with h | h
  · rw [if_neg (not_lt.mpr h.le)]
    refine ((hasDerivAt_id x).const_mul c).congr_deriv (mul_one c) |>.congr_of_eventuallyEq ?_
    filter_upwards [Iio_mem_nhds h] with y hy
    exact if_neg (not_lt.mpr (le_of_lt hy))
  · rw [if_pos h]
    refine (hasDerivAt_id x).congr_of_eventuallyEq ?_
    filter_upwards [Ioi_mem_nhds h] with y hy
    exact if_pos hy

end RealScalar
