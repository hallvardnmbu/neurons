import Proofs.Basics
import Proofs.Loop

/-!
# Networks without skip or loop connections: forward is the layer sequence, backward is the plain
reverse walk

Stated for stretches of positions, so that networks with skip connections (Proofs/SkipWalk.lean) use the same lemmas
on the stretches no connection touches and `forward_cell` / `back_cell` on the layers one does; `Sits k l t` says
where in the recorded trace `t` the values `l` of a stretch are found.
-/

namespace Walk
open Network Scalar LoopSpec

variable {α : Type} [Scalar α]

section
variable {β : Type}

def Sits (k : Nat) (l t : List β) : Prop := ∀ j v, l[j]? = some v → t[k + j]? = some v

theorem sits_self (t : List β) : Sits 0 t t := fun j v h => by rwa [Nat.zero_add]

theorem Sits.cast {k k' : Nat} {l t : List β} (h : Sits k l t) (e : k = k') : Sits k' l t := e ▸ h

theorem Sits.left {k : Nat} {l₁ l₂ t : List β} (h : Sits k (l₁ ++ l₂) t) : Sits k l₁ t := fun j v hj =>
  h j v (by rwa [List.getElem?_append_left (List.getElem?_eq_some_iff.mp hj).1])

theorem Sits.right {k : Nat} {l₁ l₂ t : List β} (h : Sits k (l₁ ++ l₂) t) : Sits (k + l₁.length) l₂ t := fun j v hj => by
  have := h (l₁.length + j) v (by rwa [List.getElem?_append_right (Nat.le_add_right _ _), Nat.add_sub_cancel_left])
  rwa [← Nat.add_assoc] at this

theorem sits_append_left (A B : List β) : Sits 0 A (A ++ B) := (sits_self _).left

theorem sits_append_right (A B : List β) : Sits A.length B (A ++ B) := (sits_self _).right.cast (Nat.zero_add _)

theorem sits_mid (A B C : List β) : Sits A.length B (A ++ B ++ C) := (sits_self _).left.right.cast (Nat.zero_add _)

theorem Sits.get {k : Nat} {l t : List β} (h : Sits k l t) (j : Nat) (v : β) (hj : l[j]? = some v) : L.get t (k + j) = .ok v :=
  L.get_ok_iff.mpr (h j v hj)

theorem Sits.head {k : Nat} {v : β} {l t : List β} (h : Sits k (v :: l) t) : L.get t k = .ok v := h.get 0 v rfl

theorem Sits.tail {k : Nat} {v : β} {l t : List β} (h : Sits k (v :: l) t) : Sits (k + 1) l t :=
  Sits.right (l₁ := [v]) h

theorem Sits.cons {k : Nat} {v : β} {l t : List β} (hv : L.get t k = .ok v) (h : Sits (k + 1) l t) : Sits k (v :: l) t :=
  L.forall_getElem?_cons (L.get_ok_iff.mp hv) fun j c hj => by
    have := h j c hj
    rwa [Nat.add_assoc, Nat.add_comm 1 j] at this

theorem Sits.last {k m : Nat} {v : β} {l t : List β} (h : Sits k l t) (hl : l.getLast? = some v) (hm : l.length = m + 1) :
    L.get t (k + m) = .ok v :=
  h.get m v (by rwa [List.getLast?_eq_getElem?, hm] at hl)

end

theorem skipInput_free (n : Network α) (act : List (Tensor α)) (i : Nat) (h : Assoc.find? n.connect i = none) :
    skipInput n act i = L.get act i := by
  simp only [skipInput, h]
  cases L.get act i <;> rfl

/-- `h` has the form in which `SkipNet.Compat.fwd` provides it -/
theorem skipInput_target (n : Network α) (hacc : n.skipaccumulation = .add) (act : List (Tensor α)) {t s : Nat}
    {x0 xs r : Tensor α} (hc : Assoc.find? n.connect t = some s) (ht : L.get act t = .ok x0) (hs : L.get act s = .ok xs)
    (h : ∃ w, (if xs.shape ≠ x0.shape then xs.reshape x0.shape else .ok xs) = .ok w ∧ x0.add w = .ok r) :
    skipInput n act t = .ok r := by
  obtain ⟨w, hw, hr⟩ := h
  simp only [skipInput, ht, hc, hs, hw, hacc, accumulate1, hr]

theorem forward_cell (n : Network α) (t : Trace α) (k : Nat) (l : Layer α) {x pre post : Tensor α} {r : Recorded α}
    (hl : n.loopbacks = []) (hin : skipInput n t.act k = .ok x) (hf : layerForward l x = .ok (pre, post, r)) :
    forwardLayer n (.ok t) (k, l) = .ok { pre := t.pre ++ [pre], act := t.act ++ [post], recs := t.recs ++ [r] } := by
  simp only [forwardLayer, hin, hf, hl, Assoc.find?]

theorem forward_free (n : Network α) (hl : n.loopbacks = []) :
    ∀ (ls : List (Layer α)) (k : Nat) (t : Trace α) (x : Tensor α),
    t.act.getLast? = some x → t.act.length = k + 1 →
    (∀ i, k ≤ i → i < k + ls.length → Assoc.find? n.connect i = none) →
    (List.zip (List.range' k ls.length) ls).foldl (forwardLayer n) (.ok t) =
      match ls.foldl rangeStep (.ok (t.pre, t.act, t.recs, x)) with
      | .error e => .error e
      | .ok (p, q, r, _) => .ok { pre := p, act := q, recs := r }
    := by
  intro ls
  induction ls with
  | nil => intro k t x _ _ _; rfl
  | cons l ls ih =>
    intro k t x hx hlen hfree
    have hin : skipInput n t.act k = .ok x := by
      rw [skipInput_free n _ k (hfree k (Nat.le_refl _) (Nat.lt_add_of_pos_right (Nat.succ_pos _))),
        L.get_last_iff hlen.symm, hx]
    simp only [List.length_cons, List.range'_succ, List.zip_cons_cons, List.foldl_cons, forwardLayer, hin, rangeStep]
    cases layerForward l x with
    | error e => simp only []; rw [L.foldl_error (fun _ _ => rfl), rangeFold_error]
    | ok r =>
      simp only [hl, Assoc.find?]
      exact ih (k + 1) _ r.2.1 List.getLast?_concat (by simp [hlen])
        (fun i h1 h2 => hfree i (Nat.le_of_succ_le h1) (by rw [List.length_cons]; omega))

/-- **`Network::forward` of a network without skip and loop connections is `_forward` over all layers:
    each layer receives the previous layer's output** -/
theorem forward_eq_runRange (n : Network α) (hc : n.connect = []) (hl : n.loopbacks = []) (x : Tensor α) :
    n.forward x = match runRange n.layers x with
      | .error e => .error e
      | .ok (p, q, r) => .ok { pre := p, act := x :: q, recs := r } := by
  unfold Network.forward runRange
  rw [List.range_eq_range', forward_free n hl n.layers 0 _ x rfl rfl (fun _ _ _ => by rw [hc]; rfl), rangeFold_prefix]
  cases n.layers.foldl rangeStep (.ok ([], [], [], x)) <;> rfl

/-- `ig` is the gradient with respect to the input the layer processed, `ig'` what it hands on after the gradients of
    its skip targets have been added -/
theorem back_cell (n : Network α) (t : Trace α) (inv : List (Nat × List Nat)) (k : Nat) (l : Layer α)
    (input output : Tensor α) {g : Tensor α} (ig ig' : Tensor α) {wg : WGrad α} {bg : BGrad α}
    {wgs : List (WGrad α)} {bgs : List (BGrad α)} {grads processed : List (Tensor α)}
    (hin : skipInput n t.act k = .ok input) (hpre : L.get t.pre k = .ok output) (hg : grads.getLast? = some g)
    (hb : layerBackward l g input output (L.get t.recs k) = .ok (ig, wg, bg))
    (hfold : ((Assoc.find? inv k).getD []).foldl (addSkipGradient n.layers.length k ig processed) (.ok ig) = .ok ig') :
    backwardStep n t inv (.ok (wgs, bgs, grads, processed)) (k, l) =
      .ok (wgs ++ [wg], bgs ++ [bg], grads ++ [ig'], processed ++ [ig]) := by
  simp only [backwardStep, hin, hpre, hg, hb]
  cases hf : Assoc.find? inv k with
  | none =>
    rw [hf] at hfold
    simp only [Option.getD_none, List.foldl_nil, Except.ok.injEq] at hfold
    rw [hfold]
  | some ts =>
    rw [hf] at hfold
    simp only [Option.getD_some] at hfold
    simp only [hfold]

/-- the plain reverse walk over `(index, layer)` pairs, given last layer first -/
def backSpec (t : Trace α) : List (Nat × Layer α) → Tensor α →
    Except Err (List (WGrad α) × List (BGrad α) × List (Tensor α))
  | [], _ => .ok ([], [], [])
  | il :: rest, g =>
    match L.get t.act il.1, L.get t.pre il.1 with
    | .ok input, .ok output =>
      match layerBackward il.2 g input output (L.get t.recs il.1) with
      | .error e => .error e
      | .ok (ig, wg, bg) =>
        match backSpec t rest ig with
        | .error e => .error e
        | .ok (ws, bs, gs) => .ok (wg :: ws, bg :: bs, ig :: gs)
    | _, _ => .error .index

theorem backSpec_append (t : Trace α) : ∀ (A B : List (Nat × Layer α)) (g : Tensor α),
    backSpec t (A ++ B) g =
      match backSpec t A g with
      | .error e => .error e
      | .ok (w1, b1, g1) =>
        match backSpec t B (g1.getLast?.getD g) with
        | .error e => .error e
        | .ok (w2, b2, g2) => .ok (w1 ++ w2, b1 ++ b2, g1 ++ g2)
    := by
  intro A
  induction A with
  | nil =>
    intro B g
    simp only [List.nil_append, backSpec, List.getLast?_nil, Option.getD_none]
    cases backSpec t B g <;> rfl
  | cons il A ih =>
    intro B g
    simp only [List.cons_append, backSpec]
    cases L.get t.act il.1 with
    | error e => rfl
    | ok input =>
      cases L.get t.pre il.1 with
      | error e => rfl
      | ok output =>
        simp only []
        cases layerBackward il.2 g input output (L.get t.recs il.1) with
        | error e => rfl
        | ok r =>
          obtain ⟨ig, wg, bg⟩ := r
          simp only []
          rw [ih B ig]
          cases backSpec t A ig with
          | error e => rfl
          | ok r1 =>
            obtain ⟨w1, b1, g1⟩ := r1
            simp only []
            rw [List.getLast?_cons, Option.getD_some]
            cases backSpec t B (g1.getLast?.getD ig) <;> rfl

theorem back_free (n : Network α) (t : Trace α) (inv : List (Nat × List Nat)) :
    ∀ (ils : List (Nat × Layer α)) (wgs : List (WGrad α)) (bgs : List (BGrad α)) (grads processed : List (Tensor α)) (g : Tensor α),
    grads.getLast? = some g →
    (∀ il ∈ ils, Assoc.find? n.connect il.1 = none ∧ Assoc.find? inv il.1 = none) →
    ils.foldl (backwardStep n t inv) (.ok (wgs, bgs, grads, processed)) =
      match backSpec t ils g with
      | .error e => .error e
      | .ok (ws, bs, gs) => .ok (wgs ++ ws, bgs ++ bs, grads ++ gs, processed ++ gs)
    := by
  intro ils
  induction ils with
  | nil => intro wgs bgs grads processed g _ _; simp [backSpec]
  | cons il rest ih =>
    intro wgs bgs grads processed g hg hfree
    obtain ⟨hc, hi⟩ := hfree il (List.mem_cons_self ..)
    simp only [List.foldl_cons, backSpec]
    simp only [backwardStep, skipInput_free n _ _ hc, hg]
    cases L.get t.act il.1 with
    | error e => exact L.foldl_error fun _ _ => rfl
    | ok input =>
      cases L.get t.pre il.1 with
      | error e => exact L.foldl_error fun _ _ => rfl
      | ok output =>
        simp only []
        cases layerBackward il.2 g input output (L.get t.recs il.1) with
        | error e => exact L.foldl_error fun _ _ => rfl
        | ok r =>
          obtain ⟨ig, wg, bg⟩ := r
          simp only [hi]
          rw [ih (wgs ++ [wg]) (bgs ++ [bg]) (grads ++ [ig]) (processed ++ [ig]) ig (by simp)
            (fun il' h' => hfree il' (List.mem_cons_of_mem _ h'))]
          cases backSpec t rest ig with
          | error e => rfl
          | ok st =>
            obtain ⟨ws, bs, gs⟩ := st
            simp [List.append_assoc]

/-- **`Network::backward` of a network without skip connections is the plain reverse walk** (loop connections
    need not be excluded: `Network.backward` never reads `loopbacks`) -/
theorem backward_eq_backSpec (n : Network α) (hc : n.connect = []) (g : Tensor α) (t : Trace α) :
    n.backward g t =
      match backSpec t (List.zip (List.range n.layers.length) n.layers).reverse g with
      | .error e => .error e
      | .ok (ws, bs, gs) => .ok (ws, bs, g :: gs) := by
  unfold Network.backward
  rw [back_free n t _ _ [] [] [g] [g] g (by simp) (fun il _ => ⟨by rw [hc]; rfl, by rw [hc]; rfl⟩)]
  cases backSpec t (List.zip (List.range n.layers.length) n.layers).reverse g with
  | error e => rfl
  | ok r => rfl

end Walk
