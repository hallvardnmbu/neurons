import Proofs.SkipPad

/-!
# Any sequence of typed layers with any table of additive skip connections between positions of one shape (C16)

The layers are given with the shapes ("slots") they map between; everything is carried over the universal padded
vector type of `SkipPad`.  `SkipTyped` holds the typed layers, `SkipTypedE` the network theorem, with the tensor
encoding of a slot chosen per POSITION: the same vectors may be held as a flat tensor at one position and as a
`c × h × w` tensor at another.  Two positions of one slot can be connected as soon as their encodings are `Compat`
(the library's reshape-then-add is adding the vectors): equal encodings that add (`SkipNet.compat_of_encAdd`), or a flat and
a spatial encoding of equal count (`SkipReshape.compat_flat_vol / compat_vol_flat`).
-/

namespace SkipTyped
open Network Scalar VJP LayerChain SkipWalk SkipNet SkipPad

variable {K : Type} [Fintype K] [DecidableEq K] [Inhabited K] (T : K → Type) [∀ k, Fintype (T k)]
  (enc : (k : K) → Enc ⟨T k⟩)

/-- a model layer with the vector function it realises between two slots -/
structure TLink where
  k₁ : K
  k₂ : K
  l : Layer ℝ
  f : V (T k₁) → V (T k₂)
  b : V (T k₁) → V (T k₂) → V (T k₁)
  pre : V (T k₁) → Tensor ℝ
  rc : V (T k₁) → Recorded ℝ
  wg : V (T k₁) → V (T k₂) → WGrad ℝ × BGrad ℝ

variable {T}

def TLink.Real (d : TLink T) (x : V (T d.k₁)) : Prop :=
  layerForward d.l (enc d.k₁ x) = .ok (d.pre x, enc d.k₂ (d.f x), d.rc x) ∧
  ∀ g, layerBackward d.l (enc d.k₂ g) (enc d.k₁ x) (d.pre x) (.ok (d.rc x)) = .ok (enc d.k₁ (d.b x g), (d.wg x g).1, (d.wg x g).2)

def tlink (d : TLink T) : Link (UIdx T) := liftLink T d.k₁ d.k₂ d.l d.f d.b d.pre d.rc d.wg

/-- the slot at position `j`: the input slot of layer `j`, the output slot of the last layer at the end -/
def slotAt (ds : List (TLink T)) (j : Nat) : K :=
  match ds[j]? with
  | some d => d.k₁
  | none => match ds.getLast? with
    | some d => d.k₂
    | none => default

def Fits (ds : List (TLink T)) : Prop := ∀ j d d', ds[j]? = some d → ds[j + 1]? = some d' → d'.k₁ = d.k₂

omit [Fintype K] [DecidableEq K] [∀ k, Fintype (T k)] in
theorem slotAt_succ (ds : List (TLink T)) (hf : Fits ds) (j : Nat) (d : TLink T) (hd : ds[j]? = some d) :
    slotAt ds (j + 1) = d.k₂ := by
  unfold slotAt
  cases hn : ds[j + 1]? with
  | some d' => exact hf j d d' hd hn
  | none => simp only [L.getLast?_of_succ_none hd hn]

set_option linter.unusedSectionVars false in
/-- what layer `j` does to the padded vectors: read slot `k₁`, apply the layer's function, write slot `k₂` -/
theorem padded_layer_step (ds : List (TLink T)) (tbl : List (Nat × Nat)) (j : Nat) (d : TLink T)
    (hd : ds[j]? = some d) (x : V (Σ k, T k)) :
    SkipDag.U (dagNet (ds.map tlink) tbl) (j + 1) x =
      emb T d.k₂ (d.f (proj T d.k₁ (SkipDag.P (dagNet (ds.map tlink) tbl) j x))) :=
  U_step (ds.map tlink) tbl x j (tlink d) (by rw [List.getElem?_map, hd]; rfl)

end SkipTyped

namespace SkipTypedE
open Network Scalar VJP LayerChain SkipWalk SkipNet SkipPad

variable {K : Type} [Fintype K] [DecidableEq K] [Inhabited K] (T : K → Type) [∀ k, Fintype (T k)]
  (enc : Nat → (k : K) → Enc ⟨T k⟩)

open SkipTyped (TLink tlink slotAt Fits slotAt_succ)

variable {T}

def RealAt (j : Nat) (d : TLink T) (x : V (T d.k₁)) : Prop :=
  layerForward d.l (enc j d.k₁ x) = .ok (d.pre x, enc (j + 1) d.k₂ (d.f x), d.rc x) ∧
  ∀ g, layerBackward d.l (enc (j + 1) d.k₂ g) (enc j d.k₁ x) (d.pre x) (.ok (d.rc x)) =
    .ok (enc j d.k₁ (d.b x g), (d.wg x g).1, (d.wg x g).2)

theorem tlink_realAt (ds : List (TLink T)) (hf : Fits ds) (j : Nat) (d : TLink T) (hd : ds[j]? = some d)
    (p : V (Σ k, T k)) (hr : RealAt enc j d (proj T d.k₁ p)) :
    (tlink d).Real (encAt T (enc j) (slotAt ds j)) (encAt T (enc (j + 1)) (slotAt ds (j + 1))) p := by
  have h0 : slotAt ds j = d.k₁ := by simp only [slotAt, hd]
  rw [h0, slotAt_succ ds hf j d hd]
  exact liftLink_real_enc T d.k₁ d.k₂ (enc j d.k₁) (enc (j + 1) d.k₂) _ _ _ _ _ _ p hr

set_option linter.unusedSectionVars false in
theorem compat_lift (k : K) (e1 e2 : Enc ⟨T k⟩) (h : Compat e1 e2) :
    Compat (m := UIdx T) (fun u => e1 (proj T k u)) (fun u => e2 (proj T k u)) :=
  compat_proj T rfl e1 e2 h

/-- **any sequence of typed layers with any table of additive skip connections between positions of one slot whose
    encodings are compatible** (equal, or a flat and a spatial form of the same vectors),
    on the model's own `Network.forward` / `Network.backward` folds -/
theorem typed_skip_enc_network_gradient (n : Network ℝ) (ds : List (TLink T)) (tbl : List (Nat × Nat))
    (hl : n.layers = ds.map (·.l))
    (hc : n.connect = tbl) (hacc : n.skipaccumulation = .add) (hlb : n.loopbacks = [])
    (hkeys : (tbl.map Prod.fst).Nodup) (hbd : ∀ e ∈ tbl, e.2 ≤ e.1 ∧ e.1 < ds.length)
    (hw : ∀ e ∈ tbl, ∃ hs : slotAt ds e.2 = slotAt ds e.1, Compat (enc e.1 (slotAt ds e.1)) (hs ▸ enc e.2 (slotAt ds e.2)))
    (hfit : Fits ds)
    (x₀ : V (T (slotAt ds 0))) (ℓ : V (T (slotAt ds ds.length)) → ℝ) (g₀ : V (T (slotAt ds ds.length))) :
    let N := dagNet (ds.map tlink) tbl
    let F := fun z : V (T (slotAt ds 0)) => proj T (slotAt ds ds.length) (SkipDag.U N ds.length (emb T (slotAt ds 0) z))
    (∀ (j : Nat) d, ds[j]? = some d → RealAt enc j d (proj T d.k₁ (SkipDag.P N j (emb T (slotAt ds 0) x₀)))) →
    (∀ (j : Nat) d, ds[j]? = some d → IsVJP d.f (proj T d.k₁ (SkipDag.P N j (emb T (slotAt ds 0) x₀)))
      (d.b (proj T d.k₁ (SkipDag.P N j (emb T (slotAt ds 0) x₀))))) →
    IsGrad ℓ (F x₀) g₀ →
    ∃ t ws bs gs γ,
      n.forward (enc 0 (slotAt ds 0) x₀) = .ok t ∧ t.act.getLast? = some (enc ds.length (slotAt ds ds.length) (F x₀)) ∧
      n.backward (enc ds.length (slotAt ds ds.length) g₀) t = .ok (ws, bs, gs) ∧ gs.getLast? = some (enc 0 (slotAt ds 0) γ) ∧
      IsGrad (ℓ ∘ F) x₀ γ := by
  intro N F hr hk hg
  refine padded_network_gradient T enc (slotAt ds) n (ds.map tlink) tbl ds.length (List.length_map _)
    (by rw [hl, List.map_map]; rfl) hc hacc hlb hkeys hbd ?_ x₀ ℓ g₀ ?_ ?_ hg
  · intro t s hts
    obtain ⟨hs, hcmp⟩ := hw (t, s) (Assoc.mem_of_find?_eq_some hts)
    exact compat_proj T hs _ _ hcmp
  · exact L.forall_getElem?_map fun j d hd => tlink_realAt enc ds hfit j d hd _ (hr j d hd)
  · exact L.forall_getElem?_map fun j d hd => isVJP_lift T d.k₁ d.k₂ _ _ _ (hk j d hd)

end SkipTypedE
