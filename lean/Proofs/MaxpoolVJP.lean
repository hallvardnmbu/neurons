import Proofs.Box
import Proofs.Folds

/-!
# Max-pool: the selection of the recorded arg-max positions and its transposed Jacobian

Away from ties the arg-max of every window is locally constant, so in a neighbourhood of the input the
max-pool *is* the linear map "output `(c,h,w)` = input at the recorded index of `(c,h,w)`"; its
transposed Jacobian is the routing of the gradient to those positions.
-/

open Finset BigOperators

namespace MaxpoolVJP
open VJP Adjoint Scatter ConvVJP

/-- the updates `Maxpool.route` performs -/
noncomputable def routeUpdates (max : MaxIdx) (og : V3 ℝ) (pos : List (ℕ × ℕ × ℕ)) : List Upd :=
  pos.flatMap (fun p => (L.get3D [] max p.1 p.2.1 p.2.2).map (fun q => ⟨p.1, q.1, q.2, L.get3D 0 og p.1 p.2.1 p.2.2⟩))

theorem route_as_updates (l : Maxpool ℝ) (hl : l.loops = 1) (max : MaxIdx) (og : V3 ℝ) (pos : List (ℕ × ℕ × ℕ)) (ic ih iw : ℕ) :
    Maxpool.route l max og pos ic ih iw =
      (routeUpdates max og pos).foldl (fun acc u => L.mod3 (· + u.v) acc u.c u.i u.j) (L.replicate3 ic ih iw 0) := by
  simp only [Maxpool.route, routeUpdates, List.foldl_flatMap, List.foldl_map, hl, div_one, mul_one]

/-- **adjoint identity for max-pooling** (layer not inside a loop connection, recorded indices inside
    the input): `⟨routed gradient, v⟩ = Σ over output positions of og[c][h][w] · v[c][recorded index]` —
    the transpose of "the output at `(c,h,w)` is the input at its recorded arg-max" -/
theorem route_adjoint (l : Maxpool ℝ) (hl : l.loops = 1) (max : MaxIdx) (og v : V3 ℝ) (pos : List (ℕ × ℕ × ℕ)) (ic ih iw : ℕ)
    (hpos : ∀ p ∈ pos, p.1 < ic ∧ ∀ q ∈ L.get3D [] max p.1 p.2.1 p.2.2, q.1 < ih ∧ q.2 < iw) :
    ip3 ic ih iw (Maxpool.route l max og pos ic ih iw) v =
      (pos.map (fun p => L.get3D 0 og p.1 p.2.1 p.2.2 *
        ((L.get3D [] max p.1 p.2.1 p.2.2).map (fun q => L.get3D 0 v p.1 q.1 q.2)).sum)).sum := by
  rw [route_as_updates l hl, ip3_scatter_zeros]
  · unfold routeUpdates
    rw [Folds.sum_map_flatMap]
    congr 1
    apply List.map_congr_left; intro p _
    rw [List.map_map, ← List.sum_map_mul_left]
    rfl
  · intro u hu
    unfold routeUpdates at hu
    simp only [List.mem_flatMap, List.mem_map] at hu
    obtain ⟨p, hp, q, hq, rfl⟩ := hu
    exact ⟨(hpos p hp).1, ((hpos p hp).2 q hq).1, ((hpos p hp).2 q hq).2⟩

theorem mem_positions (ic oh ow : ℕ) (p : ℕ × ℕ × ℕ) :
    p ∈ Maxpool.positions ic oh ow ↔ p.1 < ic ∧ p.2.1 < oh ∧ p.2.2 < ow := by
  obtain ⟨c, h, w⟩ := p
  simp [Maxpool.positions]

theorem positions_sum (ic oh ow : ℕ) (F : ℕ × ℕ × ℕ → ℝ) :
    ((Maxpool.positions ic oh ow).map F).sum = ∑ c ∈ range ic, ∑ h ∈ range oh, ∑ w ∈ range ow, F (c, h, w) := by
  unfold Maxpool.positions
  rw [Folds.sum_flatMap_range]
  apply Finset.sum_congr rfl; intro c _
  rw [Folds.sum_flatMap_range]
  apply Finset.sum_congr rfl; intro h _
  rw [List.map_map, Folds.sum_map_range]
  rfl

variable (l : Maxpool ℝ) (max : MaxIdx) (ic ih iw oh ow : ℕ)

/-- output `(c,h,w)` = sum of the input at the recorded positions of `(c,h,w)` (one position per window) -/
noncomputable def select (x : V (I3 ic ih iw)) : V (I3 ic oh ow) := fun chw =>
  ((L.get3D [] max chw.1 chw.2.1 chw.2.2).map (fun q => L.get3D 0 (toList3 x) chw.1 q.1 q.2)).sum

/-- the routed gradient of the model's `Maxpool::backward`, as a vector -/
noncomputable def routeV (g : V (I3 ic oh ow)) : V (I3 ic ih iw) := fun cij =>
  L.get3D 0 (Maxpool.route l max (toList3 g) (Maxpool.positions ic oh ow) ic ih iw) cij.1 cij.2.1 cij.2.2

/-- **routing the gradient to the recorded arg-max positions is the transposed Jacobian of selecting
    them** (layer outside loop connections; every recorded index inside the input) -/
theorem maxpool_isVJP (hl : l.loops = 1)
    (hidx : ∀ c h w, c < ic → h < oh → w < ow → ∀ q ∈ L.get3D [] max c h w, q.1 < ih ∧ q.2 < iw)
    (x : V (I3 ic ih iw)) :
    IsVJP (select max ic ih iw oh ow) x (routeV l max ic ih iw oh ow) := by
  refine IsVJP.of_adjoint _ _ (fun g v => ?_) x
  have hb : routeV l max ic ih iw oh ow g =
      rd3 (Maxpool.route l max (toList3 g) (Maxpool.positions ic oh ow) ic ih iw) := rfl
  have hpos : ∀ p ∈ Maxpool.positions ic oh ow, p.1 < ic ∧ ∀ q ∈ L.get3D [] max p.1 p.2.1 p.2.2, q.1 < ih ∧ q.2 < iw :=
    fun p hp => have h := (mem_positions ic oh ow p).mp hp; ⟨h.1, hidx p.1 p.2.1 p.2.2 h.1 h.2.1 h.2.2⟩
  rw [hb, dot_rd3_left, route_adjoint l hl max (toList3 g) (toList3 v) _ ic ih iw hpos, positions_sum,
    ← sum_I3 (fun c h w => L.get3D 0 (toList3 g) c h w *
      ((L.get3D [] max c h w).map (fun q => L.get3D 0 (toList3 v) c q.1 q.2)).sum)]
  simp only [get3D_toList3_fin]
  rfl

end MaxpoolVJP
