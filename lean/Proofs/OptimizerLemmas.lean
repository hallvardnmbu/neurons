import Model.Optimizer
import Proofs.Basics

/-! # State-table addressing: `getSlot` / `setSlot` frame lemmas (core Lean only) -/

namespace Optimizer
variable {α : Type}

/-- writing a slot and reading it back (when the slot exists) -/
theorem getSlot_setSlot_same (t : Table α) (l f b : Nat) (v v0 : Tensor α) (h : getSlot t l f b = .ok v0) :
    getSlot (setSlot t l f b v) l f b = .ok v := by
  unfold getSlot at h ⊢
  cases h1 : L.get? t l with
  | none => simp [h1] at h
  | some x =>
  cases h2 : L.get? x f with
  | none => simp [h1, h2] at h
  | some y =>
  cases h3 : L.get? y b with
  | none => simp [h1, h2, h3] at h
  | some z => simp only [setSlot, L.get?_modAt_same, h1, h2, h3, Option.map_some]

theorem getSlot_setSlot_other (t : Table α) {l f b l' f' b' : Nat} (v : Tensor α)
    (h : (l, f, b) ≠ (l', f', b')) :
    getSlot (setSlot t l f b v) l' f' b' = getSlot t l' f' b' := by
  unfold getSlot setSlot
  by_cases hl : l = l'
  · subst hl
    rw [L.get?_modAt_same]
    cases h1 : L.get? t l with
    | none => rfl
    | some x =>
      simp only [Option.map]
      by_cases hf : f = f'
      · subst hf
        rw [L.get?_modAt_same]
        cases h2 : L.get? x f with
        | none => rfl
        | some y =>
          simp only [Option.map]
          have hb : b ≠ b' := fun e => h (by rw [e])
          rw [L.get?_modAt_other hb]
      · rw [L.get?_modAt_other hf]
  · rw [L.get?_modAt_other hl]

end Optimizer
