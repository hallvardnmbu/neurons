import Proofs.Basics
import Mathlib.Data.List.Nodup
import Mathlib.Data.List.Perm.Basic

/-!
# The table `Network::backward` inverts (`target ↦ source` to `source ↦ sorted targets`)

What reading the reverse sweep off the model's fold needs of `invertSkips` (C16): a source without
connections has no entry; the targets listed for a source are exactly the connections into it, each once.
-/

namespace SkipTable
open Network

theorem perm_insertSorted (x : Nat) (l : List Nat) : (insertSorted x l).Perm (x :: l) := by
  induction l with
  | nil => exact List.Perm.refl _
  | cons y ys ih =>
    simp only [insertSorted]
    split
    · exact List.Perm.refl _
    · exact (ih.cons y).trans (List.Perm.swap x y ys)

theorem invertStep_eq (m : List (Nat × List Nat)) (e : Nat × Nat) :
    invertStep m e = Assoc.insert m e.2 (insertSorted e.1 ((Assoc.find? m e.2).getD [])) := by
  unfold invertStep
  cases Assoc.find? m e.2 with
  | none => rfl
  | some ts => rfl

theorem getD_invertStep (m : List (Nat × List Nat)) (e : Nat × Nat) (a : Nat) :
    (Assoc.find? (invertStep m e) a).getD [] =
      if e.2 = a then insertSorted e.1 ((Assoc.find? m a).getD []) else (Assoc.find? m a).getD [] := by
  rw [invertStep_eq]
  by_cases h : e.2 = a
  · subst h
    rw [if_pos rfl, Assoc.find?_insert_same]
    rfl
  · rw [if_neg h, Assoc.find?_insert_other h]

theorem perm_invert_fold (a : Nat) (c : List (Nat × Nat)) (m : List (Nat × List Nat)) :
    ((Assoc.find? (c.foldl invertStep m) a).getD []).Perm
      ((Assoc.find? m a).getD [] ++ (c.filter (fun e => e.2 = a)).map Prod.fst) := by
  induction c generalizing m with
  | nil => simp
  | cons e rest ih =>
    refine (ih (invertStep m e)).trans ?_
    rw [getD_invertStep]
    by_cases h : e.2 = a
    · rw [if_pos h, List.filter_cons_of_pos (by simpa using h), List.map_cons]
      exact ((perm_insertSorted e.1 _).append_right _).trans List.perm_middle.symm
    · rw [if_neg h, List.filter_cons_of_neg (by simpa using h)]

/-- the targets recorded for source `a` are exactly the connections into it -/
theorem invert_mem (c : List (Nat × Nat)) (a b : Nat) :
    b ∈ ((Assoc.find? (invertSkips c) a).getD []) ↔ (b, a) ∈ c := by
  rw [invertSkips, (perm_invert_fold a c []).mem_iff]
  simp [Assoc.find?]

/-- a layer that is the source of no connection has no entry -/
theorem invert_none (c : List (Nat × Nat)) (a : Nat) (h : ∀ e ∈ c, e.2 ≠ a) :
    Assoc.find? (invertSkips c) a = none :=
  L.foldl_inv (fun m => Assoc.find? m a = none) rfl fun m hm e he => by
    rw [invertStep_eq, Assoc.find?_insert_other (h e he), hm]

/-- with distinct targets, no target is listed twice -/
theorem invert_nodup (c : List (Nat × Nat)) (hc : (c.map Prod.fst).Nodup) (a : Nat) :
    ((Assoc.find? (invertSkips c) a).getD []).Nodup := by
  rw [invertSkips, (perm_invert_fold a c []).nodup_iff]
  exact List.Nodup.sublist (List.filter_sublist.map _) hc

end SkipTable
