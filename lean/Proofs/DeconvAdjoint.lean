import Proofs.Adjoint
import Props.C02

/-!
# Deconvolution: the backward pass is the transpose of the forward map (both arguments)

Forward (`Deconv.scatter`) and backward (`Deconv.gradPass`) iterate the *same* tap list; the forward
pass scatters `x[c][i][j]·K[k][c][ki][kj]` into `y[k][oi][oj]`, the backward pass scatters
`δ[k][oi][oj]·K[k][c][ki][kj]` into `gx[c][i][j]`.  By scatter/gather duality both inner products
are the same sum over `(k, c, tap)`.
-/

open Finset

namespace DeconvAdjoint
open Scatter Adjoint Adjoint4

/-- `(filter, channel, tap)` in the order of the loops of `Deconv.gradPass` -/
def visits (kf kc : ℕ) (tp : List (ℕ × ℕ × ℕ × ℕ × ℕ × ℕ)) : List (ℕ × ℕ × ℕ × ℕ × ℕ × ℕ × ℕ × ℕ) :=
  (List.range kf).flatMap (fun f => (List.range kc).flatMap (fun c => tp.map (fun t => (f, c, t))))

/-- the forward scatter's updates over the same visits -/
theorem deconvUpdates_eq (x : V3 ℝ) (ks : List (V3 ℝ)) (kf kc : ℕ) (tp : List (ℕ × ℕ × ℕ × ℕ × ℕ × ℕ)) :
    C02.deconvUpdates x ks kf kc tp = (visits kf kc tp).map fun p =>
      ⟨p.1, p.2.2.2.2.2.2.1, p.2.2.2.2.2.2.2, L.get3D 0 x p.2.1 p.2.2.1 p.2.2.2.1 * L.get4D 0 ks p.1 p.2.1 p.2.2.2.2.1 p.2.2.2.2.2.1⟩ := by
  simp only [C02.deconvUpdates, visits, List.map_flatMap, List.map_map]
  rfl

/-- what `Deconv.gradStep` adds to the input gradient at the visit `p = (f, c, i, j, ki, kj, oi, oj)` … -/
noncomputable def igUpdates (ks : List (V3 ℝ)) (delta : V3 ℝ) (kf kc : ℕ) (tp : List (ℕ × ℕ × ℕ × ℕ × ℕ × ℕ)) : List Upd :=
  (visits kf kc tp).map fun p =>
    ⟨p.2.1, p.2.2.1, p.2.2.2.1, L.get3D 0 delta p.1 p.2.2.2.2.2.2.1 p.2.2.2.2.2.2.2 * L.get4D 0 ks p.1 p.2.1 p.2.2.2.2.1 p.2.2.2.2.2.1⟩

/-- … and to the kernel gradient -/
noncomputable def kgUpdates (x delta : V3 ℝ) (kf kc : ℕ) (tp : List (ℕ × ℕ × ℕ × ℕ × ℕ × ℕ)) : List Upd4 :=
  (visits kf kc tp).map fun p =>
    ⟨p.1, p.2.1, p.2.2.2.2.1, p.2.2.2.2.2.1, L.get3D 0 delta p.1 p.2.2.2.2.2.2.1 p.2.2.2.2.2.2.2 * L.get3D 0 x p.2.1 p.2.2.1 p.2.2.2.1⟩

/-- both gradients of `Deconv.gradPass` are scatters into zeros: its loops are one loop over `visits`, whose step treats
    the two accumulators independently -/
theorem gradPass_eq (x : V3 ℝ) (ks : List (V3 ℝ)) (delta : V3 ℝ) (kf kc kh kw ih iw : ℕ)
    (tp : List (ℕ × ℕ × ℕ × ℕ × ℕ × ℕ)) :
    Deconv.gradPass x ks delta kf kc kh kw ih iw tp =
      ((igUpdates ks delta kf kc tp).foldl (fun acc u => L.mod3 (· + u.v) acc u.c u.i u.j) (L.replicate3 kc ih iw 0),
       (kgUpdates x delta kf kc tp).foldl (fun acc u => L.mod4 (· + u.v) acc u.f u.c u.i u.j) (L.replicate4 kf kc kh kw 0)) := by
  simp only [igUpdates, kgUpdates, List.foldl_map]
  refine Eq.trans ?_ (L.foldl_pair (_, _))
  simp only [Deconv.gradPass, visits, List.foldl_flatMap, List.foldl_map]
  rfl

/-- **adjoint identity for the deconvolution's input**: for every upstream `δ` and every direction `v`
    (a tensor in the input's box), `⟨δ, forward-linear-part(v)⟩ = ⟨input gradient(δ), v⟩` — for every
    stride, padding, kernel and size -/
theorem input_adjoint (l : Deconv ℝ) (x v : V3 ℝ) (ks : List (V3 ℝ)) (delta : V3 ℝ) (kf kc ih iw kh kw oh ow : ℕ) :
    ip3 kf oh ow (Deconv.scatter v ks kf kc (Deconv.taps l ih iw kh kw oh ow) oh ow) delta =
      ip3 kc ih iw (Deconv.gradPass x ks delta kf kc kh kw ih iw (Deconv.taps l ih iw kh kw oh ow)).1 v := by
  rw [C02.scatter_as_updates, gradPass_eq]
  rw [ip3_scatter_zeros, ip3_scatter_zeros]
  · rw [deconvUpdates_eq, igUpdates, List.map_map, List.map_map]
    refine congrArg List.sum (List.map_congr_left fun p _ => ?_)
    simp only [Function.comp]
    ring
  · intro u hu
    unfold igUpdates visits at hu
    simp only [List.mem_flatMap, List.mem_range, List.mem_map] at hu
    obtain ⟨_, ⟨f, _, c, hc, t, ht, rfl⟩, rfl⟩ := hu
    have := (C02.mem_taps l ih iw kh kw oh ow t).mp ht
    exact ⟨hc, this.1, this.2.1⟩
  · exact C02.deconvUpdates_bounds l _ _ kf kc ih iw kh kw oh ow

/-- **adjoint identity for the deconvolution's kernels**: for every upstream `δ` and every kernel
    direction `dK`, `⟨δ, forward with kernels dK⟩ = ⟨kernel gradient(δ), dK⟩` -/
theorem kernel_adjoint (l : Deconv ℝ) (x : V3 ℝ) (ks dK : List (V3 ℝ)) (delta : V3 ℝ) (kf kc ih iw kh kw oh ow : ℕ) :
    ip3 kf oh ow (Deconv.scatter x dK kf kc (Deconv.taps l ih iw kh kw oh ow) oh ow) delta =
      ip4 kf kc kh kw (Deconv.gradPass x ks delta kf kc kh kw ih iw (Deconv.taps l ih iw kh kw oh ow)).2 dK := by
  rw [C02.scatter_as_updates, gradPass_eq]
  rw [ip3_scatter_zeros, ip4_scatter_zeros]
  · rw [deconvUpdates_eq, kgUpdates, List.map_map, List.map_map]
    refine congrArg List.sum (List.map_congr_left fun p _ => ?_)
    simp only [Function.comp]
    ring
  · intro u hu
    unfold kgUpdates visits at hu
    simp only [List.mem_flatMap, List.mem_range, List.mem_map] at hu
    obtain ⟨_, ⟨f, hf, c, hc, t, ht, rfl⟩, rfl⟩ := hu
    have := (C02.mem_taps l ih iw kh kw oh ow t).mp ht
    exact ⟨hf, hc, this.2.2.1, this.2.2.2.1⟩
  · exact C02.deconvUpdates_bounds l _ _ kf kc ih iw kh kw oh ow

end DeconvAdjoint
