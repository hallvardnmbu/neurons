import Proofs.ConvVJP
import Proofs.DeconvAdjoint

/-!
# The deconvolution's pre-activation map as a vector function, and its transposed Jacobians
-/

open Finset BigOperators

namespace DeconvVJP
open VJP Adjoint Adjoint4 Scatter ConvVJP

theorem ip4_congr_right (F C H W : ℕ) (A b b' : V4 ℝ)
    (h : ∀ f c i j, f < F → c < C → i < H → j < W → L.get4D 0 b f c i j = L.get4D 0 b' f c i j) :
    ip4 F C H W A b = ip4 F C H W A b' := by
  unfold ip4
  apply Finset.sum_congr rfl; intro f hf
  apply Finset.sum_congr rfl; intro c hc
  apply Finset.sum_congr rfl; intro i hi
  apply Finset.sum_congr rfl; intro j hj
  rw [h f c i j (mem_range.mp hf) (mem_range.mp hc) (mem_range.mp hi) (mem_range.mp hj)]

variable (l : Deconv ℝ) (kf kc kh kw ih iw oh ow : ℕ)

/-- the deconvolution's pre-activation (bias-free transposed convolution) as a function of the input
    and of the kernels: literally the model's scatter loops read back at a position -/
noncomputable def deconvPre (ks : List (V3 ℝ)) (x : V (I3 kc ih iw)) : V (I3 kf oh ow) := fun koq =>
  L.get3D 0 (Deconv.scatter (toList3 x) ks kf kc (Deconv.taps l ih iw kh kw oh ow) oh ow) koq.1 koq.2.1 koq.2.2

/-- the input gradient of the model's backward pass (the first component of `gradPass`; it does not
    depend on the recorded input `x0`) -/
noncomputable def deconvBwd (ks : List (V3 ℝ)) (x0 : V3 ℝ) (g : V (I3 kf oh ow)) : V (I3 kc ih iw) := fun cij =>
  L.get3D 0 (Deconv.gradPass x0 ks (toList3 g) kf kc kh kw ih iw (Deconv.taps l ih iw kh kw oh ow)).1 cij.1 cij.2.1 cij.2.2

/-- **the deconvolution's pre-activation map has the model's input gradient as its transposed
    Jacobian** — every stride, padding, kernel size, channel and filter count -/
theorem deconv_isVJP (ks : List (V3 ℝ)) (x0 : V3 ℝ) (x : V (I3 kc ih iw)) :
    IsVJP (deconvPre l kf kc kh kw ih iw oh ow ks) x (deconvBwd l kf kc kh kw ih iw oh ow ks x0) := by
  refine IsVJP.of_adjoint _ _ (fun g v => ?_) x
  have hb : deconvBwd l kf kc kh kw ih iw oh ow ks x0 g =
      rd3 (Deconv.gradPass x0 ks (toList3 g) kf kc kh kw ih iw (Deconv.taps l ih iw kh kw oh ow)).1 := rfl
  have hf : deconvPre l kf kc kh kw ih iw oh ow ks v =
      rd3 (Deconv.scatter (toList3 v) ks kf kc (Deconv.taps l ih iw kh kw oh ow) oh ow) := rfl
  rw [hb, hf, dot_rd3_left, dot_rd3_right, ip3_comm kf,
    DeconvAdjoint.input_adjoint l x0 (toList3 v) ks (toList3 g) kf kc ih iw kh kw oh ow]

noncomputable def deconvPreK (xs : V3 ℝ) (K : V (I4 kf kc kh kw)) : V (I3 kf oh ow) := fun koq =>
  L.get3D 0 (Deconv.scatter xs (toList4 K) kf kc (Deconv.taps l ih iw kh kw oh ow) oh ow) koq.1 koq.2.1 koq.2.2

noncomputable def deconvBwdK (xs : V3 ℝ) (ks : List (V3 ℝ)) (g : V (I3 kf oh ow)) : V (I4 kf kc kh kw) := fun fchw =>
  L.get4D 0 (Deconv.gradPass xs ks (toList3 g) kf kc kh kw ih iw (Deconv.taps l ih iw kh kw oh ow)).2
    fchw.1 fchw.2.1 fchw.2.2.1 fchw.2.2.2

/-- **the pre-activation as a function of the kernels has the model's kernel gradient as its transposed
    Jacobian** -/
theorem deconv_kernel_isVJP (xs : V3 ℝ) (ks : List (V3 ℝ)) (K : V (I4 kf kc kh kw)) :
    IsVJP (deconvPreK l kf kc kh kw ih iw oh ow xs) K (deconvBwdK l kf kc kh kw ih iw oh ow xs ks) := by
  refine IsVJP.of_adjoint _ _ (fun g v => ?_) K
  have hb : deconvBwdK l kf kc kh kw ih iw oh ow xs ks g =
      rd4 (Deconv.gradPass xs ks (toList3 g) kf kc kh kw ih iw (Deconv.taps l ih iw kh kw oh ow)).2 := rfl
  have hf : deconvPreK l kf kc kh kw ih iw oh ow xs v =
      rd3 (Deconv.scatter xs (toList4 v) kf kc (Deconv.taps l ih iw kh kw oh ow) oh ow) := rfl
  rw [hb, hf, dot_rd4_left, dot_rd3_right, ip3_comm kf,
    DeconvAdjoint.kernel_adjoint l xs ks (toList4 v) (toList3 g) kf kc ih iw kh kw oh ow]

end DeconvVJP
