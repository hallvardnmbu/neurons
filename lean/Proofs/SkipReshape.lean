import Proofs.SkipLinks

/-!
# Skip connections between a flat and a spatial position of equal element count (C16)

Both positions are described over the flat index type `Fin (c*h*w)`: the flat one is encoded by `vecT`, the spatial
one by `T3 ∘ unflat` (the row-major re-indexing).  `Network::skip_input` reshapes the source to the target's shape,
`backward` reshapes the target's gradient to the source's shape; in both directions the reshape is the re-indexing,
so the connection is `Compat` with the identity on the vectors.
-/

namespace SkipReshape
open Network Scalar VJP LayerChain SkipWalk SkipNet ChainLinks DenseBridge DenseStack ConvVJP ConvBridge ConvNet Flat3

variable {c h w : ℕ}

noncomputable def eVolFlat (c h w : ℕ) : Enc (iVec (c * h * w)) := fun u => T3 (unflat (c := c) (h := h) (w := w) u)

theorem unflat_add (u v : Vec (c * h * w)) : unflat (c := c) (h := h) (w := w) (u + v) = unflat u + unflat v := rfl

/-- a flat vector reshaped to `c × h × w` is its row-major re-indexing -/
theorem reshape_vecT (u : Vec (c * h * w)) : (vecT u).reshape (.triple c h w) = .ok (T3 (unflat u)) := by
  have hg : L.toTriple c h w (List.ofFn u) = .ok (toList3 (unflat u)) := getTriple_vecT u
  simp only [vecT, Tensor.reshape, Tensor.getFlat, ne_eq, not_true_eq_false, ↓reduceIte, hg]
  rfl

/-- a `c × h × w` tensor reshaped to a flat vector is its row-major sequence -/
theorem reshape_T3 (v : V (I3 c h w)) (hc : 0 < c) (hh : 0 < h) : (T3 v).reshape (.single (c * h * w)) = .ok (vecT (flat v)) := by
  have := flatten_T3 v hc hh
  simp only [T3, Tensor.reshape, ne_eq, not_true_eq_false, ↓reduceIte] at this ⊢
  exact this

theorem reshape_eVolFlat (hc : 0 < c) (hh : 0 < h) (v : Vec (c * h * w)) :
    (eVolFlat c h w v).reshape (.single (c * h * w)) = .ok (vecT v) := by
  have := reshape_T3 (unflat (c := c) (h := h) (w := w) v) hc hh
  rwa [flat_unflat] at this

theorem eVolFlat_add (u v : Vec (c * h * w)) :
    (eVolFlat c h w u).add (eVolFlat c h w v) = .ok (eVolFlat c h w (u + v)) :=
  (encAdd_vol c h w).add (unflat u) (unflat v)

theorem eVolFlat_ne_eVec : eVolFlat c h w ≠ eVec (c * h * w) :=
  fun heq => nomatch congrArg Tensor.shape (congrFun heq 0)

/-- a spatial target fed by a flat source (`if_pos nofun`: a `.single` and a `.triple` shape differ, so the model reshapes) -/
theorem compat_vol_flat (hc : 0 < c) (hh : 0 < h) : Compat (eVolFlat c h w) (eVec (c * h * w)) where
  fwd u v := ⟨eVolFlat c h w v, (if_pos nofun).trans (reshape_vecT v), eVolFlat_add u v⟩
  bwd u v := ⟨vecT v, reshape_eVolFlat hc hh v, (encAdd_vec (c * h * w)).add u v⟩
  self heq := absurd heq eVolFlat_ne_eVec

/-- a flat target fed by a spatial source -/
theorem compat_flat_vol (hc : 0 < c) (hh : 0 < h) : Compat (eVec (c * h * w)) (eVolFlat c h w) where
  fwd u v := ⟨vecT v, (if_pos nofun).trans (reshape_eVolFlat hc hh v), (encAdd_vec (c * h * w)).add u v⟩
  bwd u v := ⟨eVolFlat c h w v, reshape_vecT v, eVolFlat_add u v⟩
  self heq := absurd heq.symm eVolFlat_ne_eVec

/-- a shape-preserving convolution whose output is flattened (a dense layer follows), over the flat index type:
    input encoded as `c × h × w`, output as a flat vector -/
noncomputable def convFlatLink {kh kw : ℕ} (q : Conv ℝ × Act × V (I4 c c kh kw)) : Link (iVec (c * h * w)) where
  l := .conv q.1
  f := fun u => flat (convFn q.1 q.2.1 q.2.2 h w h w (unflat u))
  b := fun u g => flat (convBwdX q.1 q.2.1 q.2.2 h w h w (unflat u) (unflat g))
  pre := fun u => T3 (ConvBridge.pre q.1 q.2.2 h w h w (unflat u))
  rc := fun _ => .none
  wg := fun u g => (.one (T4 (convBwdKer q.1 q.2.1 q.2.2 h w h w (unflat u) (unflat g))), .one none)

theorem convFlatLink_real {kh kw : ℕ} (q : Conv ℝ × Act × V (I4 c c kh kw)) (hl : IsConv q.1 q.2.1 q.2.2 h w h w)
    (ha : q.2.1 ≠ .softmax) (hf : q.1.flatten = true) (p : Vec (c * h * w)) :
    (convFlatLink (h := h) (w := w) q).Real (eVolFlat c h w) (eVec (c * h * w)) p := by
  have r := real_conv_flat q.1 q.2.1 q.2.2 hl ha hf (unflat p)
  refine ⟨r.1, fun g => ?_⟩
  simp only [convFlatLink, eVolFlat, unflat_flat]
  exact r.2 g

theorem convFlatLink_vjp {kh kw : ℕ} (q : Conv ℝ × Act × V (I4 c c kh kw)) (hl : IsConv q.1 q.2.1 q.2.2 h w h w)
    (ha : q.2.1 ≠ .softmax) (p : Vec (c * h * w)) (hk : ∀ i, NoKink q.2.1 (ConvBridge.pre q.1 q.2.2 h w h w (unflat p) i)) :
    IsVJP (convFlatLink (h := h) (w := w) q).f p
      ((convFlatLink (h := h) (w := w) q).b p) := by
  exact (unflat_isVJP (c := c) (h := h) (w := w) p).comp (vjp_conv_flat q.1 q.2.1 q.2.2 hl ha (unflat p) hk)

/-- the position-indexed encoding of a stretch that starts with a flattened convolution: position 0 holds a
    `c × h × w` tensor, every later position a flat vector -/
noncomputable def emFS (c h w : ℕ) : Nat → Enc (iVec (c * h * w))
  | 0 => eVolFlat c h w
  | _ + 1 => eVec (c * h * w)

theorem emFS_zero_flat (x : V (I3 c h w)) : emFS c h w 0 (flat x) = T3 x := by
  show T3 (unflat (flat x)) = T3 x
  rw [unflat_flat]

theorem compat_emFS (hc : 0 < c) (hh : 0 < h) (t : Nat) : ∀ s, Compat (emFS c h w (t + 1)) (emFS c h w s)
  | 0 => compat_flat_vol hc hh
  | _ + 1 => compat_of_encAdd (encAdd_vec (c * h * w))

end SkipReshape
