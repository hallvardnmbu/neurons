import Proofs.Chain
import Proofs.SkipDag
import Proofs.SkipDagP
import Proofs.SkipTable

/-!
# Networks with any number of additive skip connections, on the model's own folds (C16)

`head`, then a stretch `body` of layers between vectors of one index type with an arbitrary table of skip
connections among them (chains, shared sources, nested and overlapping connections, a connection from a
layer to itself), then `tail`.  `Network.forward` records the values of `SkipDag.U`; `Network.backward` —
which reads the sorted targets of every source from the inverted table — performs `SkipDag.sweep`, hence
returns the gradient of the objective.
-/

namespace SkipNet
open Network Scalar VJP Walk LoopSpec LayerChain SkipWalk SkipTable

variable {a m c : Idx} {ea : Enc a} {em : Nat → Enc m} {ec : Enc c}

/-- a model layer with the vector function it realises between vectors of one index type -/
structure Link (m : Idx) where
  l : Layer ℝ
  f : V m.T → V m.T
  b : V m.T → V m.T → V m.T
  pre : V m.T → Tensor ℝ
  rc : V m.T → Recorded ℝ
  wg : V m.T → V m.T → WGrad ℝ × BGrad ℝ

def Link.Real (ein eout : Enc m) (k : Link m) (p : V m.T) : Prop :=
  layerForward k.l (ein p) = .ok (k.pre p, eout (k.f p), k.rc p) ∧
  ∀ g, layerBackward k.l (eout g) (ein p) (k.pre p) (.ok (k.rc p)) = .ok (ein (k.b p g), (k.wg p g).1, (k.wg p g).2)

/-- what a connection needs of the encodings at its two ends: `e1` at the target, `e2` at the source -/
structure Compat (e1 e2 : Enc m) : Prop where
  /-- forward: the source (brought to the target's shape when the shapes differ) added to the target -/
  fwd : ∀ u v, ∃ w, (if (e2 v).shape ≠ (e1 u).shape then (e2 v).reshape (e1 u).shape else .ok (e2 v)) = .ok w ∧
    (e1 u).add w = .ok (e1 (u + v))
  /-- backward: the target's processed-input gradient, brought to the source's shape, added to the source's -/
  bwd : ∀ u v, ∃ w, (e1 v).reshape (e2 u).shape = .ok w ∧ (e2 u).add w = .ok (e2 (u + v))
  /-- a layer connected to itself -/
  self : e1 = e2 → ∀ u v, ∃ w, (e2 v).reshape (e2 u).shape = .ok w ∧ (e2 u).add w = .ok (e2 (u + v))

theorem compat_of_encAdd {e : Enc m} (he : EncAdd e) : Compat e e where
  fwd u v := ⟨e v, by rw [if_neg (by rw [ne_eq, not_not]; exact he.shape _ _)], he.add _ _⟩
  bwd u v := ⟨e v, he.reshape _ _, he.add _ _⟩
  self _ u v := ⟨e v, he.reshape _ _, he.add _ _⟩

/-- the stretch as a `SkipDag.Net`; the table is relative to the stretch: `(target, source)` -/
def dagNet (body : List (Link m)) (tbl : List (Nat × Nat)) : SkipDag.Net m.T where
  f i := match body[i]? with
    | some k => k.f
    | none => fun p => p
  b i := match body[i]? with
    | some k => k.b
    | none => fun _ g => g
  S i := Assoc.find? tbl i

/-- `List.mapIdx` from position `k` on (`mapOff_eq_mapIdx`), by recursion on the list so that `simp only [mapOff]`
    steps through a `cons` -/
def mapOff {β : Type} (F : Nat → Link m → β) : Nat → List (Link m) → List β
  | _, [] => []
  | k, lk :: rest => F k lk :: mapOff F (k + 1) rest

theorem mapOff_eq_mapIdx {β : Type} (F : Nat → Link m → β) (k : Nat) (ls : List (Link m)) :
    mapOff F k ls = ls.mapIdx (fun i => F (k + i)) := by
  induction ls generalizing k with
  | nil => rfl
  | cons lk rest ih => simp only [mapOff, ih, List.mapIdx_cons, Nat.add_zero, Nat.add_assoc, Nat.add_comm 1]

theorem length_mapOff {β : Type} (F : Nat → Link m → β) (k : Nat) (ls : List (Link m)) :
    (mapOff F k ls).length = ls.length := by
  rw [mapOff_eq_mapIdx, List.length_mapIdx]

theorem getElem?_mapOff {β : Type} (F : Nat → Link m → β) (k : Nat) (ls : List (Link m)) (i : Nat) :
    (mapOff F k ls)[i]? = ls[i]?.map (F (k + i)) := by
  rw [mapOff_eq_mapIdx, List.getElem?_mapIdx]

theorem getLast?_mapOff (F : Nat → V m.T) (ls : List (Link m)) (k : Nat) (A : List (Tensor ℝ))
    (hA : A.getLast? = some (em k (F k))) :
    (A ++ mapOff (fun j _ => em (j + 1) (F (j + 1))) k ls).getLast? = some (em (k + ls.length) (F (k + ls.length))) := by
  induction ls generalizing k A with
  | nil => simpa [mapOff] using hA
  | cons lk rest ih =>
    have := ih (k + 1) (A ++ [em (k + 1) (F (k + 1))]) (List.getLast?_concat ..)
    rwa [List.append_assoc, List.singleton_append, Nat.add_assoc, Nat.add_comm 1] at this

section
-- `h`: how many layers precede the stretch
variable (n : Network ℝ) (h : Nat) (body : List (Link m)) (tbl : List (Nat × Nat)) (y : V m.T)

theorem U_step (k : Nat) (lk : Link m) (hk : body[k]? = some lk) :
    SkipDag.U (dagNet body tbl) (k + 1) y = lk.f (SkipDag.P (dagNet body tbl) k y) := by
  rw [SkipDag.U_succ]
  simp only [dagNet, hk]

theorem dag_ok (hb : ∀ j (lk : Link m), body[j]? = some lk →
      IsVJP lk.f (SkipDag.P (dagNet body tbl) j y) (lk.b (SkipDag.P (dagNet body tbl) j y))) :
    SkipDag.Ok (dagNet body tbl) body.length y := by
  intro i hi
  have := hb i body[i] (List.getElem?_eq_getElem hi)
  simp only [dagNet, List.getElem?_eq_getElem hi]
  exact this

theorem skipInput_body (hacc : n.skipaccumulation = .add) (hcomp : ∀ t s, Assoc.find? tbl t = some s → Compat (em t) (em s))
    (hsrc : ∀ t s, Assoc.find? tbl t = some s → s ≤ t)
    (k : Nat) (hconn : Assoc.find? n.connect (h + k) = (Assoc.find? tbl k).map (h + ·))
    (act : List (Tensor ℝ)) (hact : ∀ j, j ≤ k → L.get act (h + j) = .ok (em j (SkipDag.U (dagNet body tbl) j y))) :
    skipInput n act (h + k) = .ok (em k (SkipDag.P (dagNet body tbl) k y)) := by
  cases hs : Assoc.find? tbl k with
  | none =>
    rw [skipInput_free n act _ (by rw [hconn, hs]; rfl), hact k (Nat.le_refl _), SkipDag.P_of_none _ k y hs]
  | some s =>
    have hle := hsrc k s hs
    rw [SkipDag.P_of_some _ k s y hs hle]
    exact skipInput_target n hacc act (by rw [hconn, hs]; rfl) (hact k (Nat.le_refl _)) (hact s hle)
      ((hcomp k s hs).fwd _ _)

theorem forward_body (hl : n.loopbacks = []) (hacc : n.skipaccumulation = .add) (hcomp : ∀ t s, Assoc.find? tbl t = some s → Compat (em t) (em s))
    (hsrc : ∀ t s, Assoc.find? tbl t = some s → s ≤ t)
    (hconn : ∀ k, k < body.length → Assoc.find? n.connect (h + k) = (Assoc.find? tbl k).map (h + ·)) :
    ∀ (ls : List (Link m)) (k : Nat) (t : Trace ℝ), body.drop k = ls →
      t.act.length = h + k + 1 →
      (∀ j, j ≤ k → L.get t.act (h + j) = .ok (em j (SkipDag.U (dagNet body tbl) j y))) →
      (∀ i (lk : Link m), ls[i]? = some lk → lk.Real (em (k + i)) (em (k + i + 1)) (SkipDag.P (dagNet body tbl) (k + i) y)) →
      (List.zip (List.range' (h + k) ls.length) (ls.map (·.l))).foldl (forwardLayer n) (.ok t) =
        .ok { pre := t.pre ++ mapOff (fun j lk => lk.pre (SkipDag.P (dagNet body tbl) j y)) k ls,
              act := t.act ++ mapOff (fun j _ => em (j + 1) (SkipDag.U (dagNet body tbl) (j + 1) y)) k ls,
              recs := t.recs ++ mapOff (fun j lk => lk.rc (SkipDag.P (dagNet body tbl) j y)) k ls } := by
  intro ls
  induction ls with
  | nil => intro k t _ _ _ _; simp [mapOff]
  | cons lk rest ih =>
    intro k t hdrop hlen hact hreal
    obtain ⟨hk, hdrop'⟩ := L.drop_cons hdrop
    have hkl : k < body.length := (List.getElem?_eq_some_iff.mp hk).1
    have hin := skipInput_body n h body tbl y hacc hcomp hsrc k (hconn k hkl) t.act hact
    have hr := hreal 0 lk rfl
    rw [Nat.add_zero] at hr
    simp only [List.length_cons, List.range'_succ, List.map_cons, List.zip_cons_cons, List.foldl_cons]
    rw [forward_cell n t (h + k) lk.l hl hin hr.1, Nat.add_assoc h k 1,
      ih (k + 1) _ hdrop' (by rw [List.length_append, hlen]; rfl)
      (fun j hj => by
        rcases Nat.lt_succ_iff_lt_or_eq.mp (Nat.lt_succ_of_le hj) with h1 | rfl
        · exact L.get_append_ok (hact j (Nat.le_of_lt_succ h1))
        · rw [U_step body tbl y k lk hk]
          exact L.get_append_cons hlen)
      (fun i lk' hi => by
        have e : k + (i + 1) = k + 1 + i := Nat.add_right_comm k i 1
        have := hreal (i + 1) lk' (by rwa [List.getElem?_cons_succ])
        rwa [e] at this)]
    simp only [mapOff, List.append_assoc, List.singleton_append]
    rw [U_step body tbl y k lk hk]

end

/-- the targets of source `i` of the stretch, read from the inverted table -/
def tgs (inv : List (Nat × List Nat)) (h : Nat) (i : Nat) : List Nat :=
  ((Assoc.find? inv (h + i)).getD []).map (· - h)

theorem fold_addSkip (len h i : Nat) (δ : V m.T) (processed : List (Tensor ℝ)) (D : Nat → V m.T)
    (hD : D i = δ) (ts : List Nat) (cur : V m.T)
    (hts : ∀ t ∈ ts, ∃ t', t = h + t' ∧ Compat (em t') (em i) ∧
      (t' ≠ i → ∃ r, t + r = len ∧ L.get processed r = .ok (em t' (D t')))) :
    ts.foldl (addSkipGradient len (h + i) (em i δ) processed) (.ok (em i cur)) =
      .ok (em i (cur + ((ts.map (· - h)).map D).sum)) := by
  induction ts generalizing cur with
  | nil => simp
  | cons t rest ih =>
    obtain ⟨t', ht, hc, hproc⟩ := hts t (List.mem_cons_self ..)
    subst ht
    simp only [List.foldl_cons, List.map_cons, List.sum_cons, Nat.add_sub_cancel_left]
    have hs : addSkipGradient len (h + i) (em i δ) processed (.ok (em i cur)) (h + t') = .ok (em i (cur + D t')) := by
      unfold addSkipGradient
      by_cases hti : t' = i
      · subst hti
        obtain ⟨w, hw1, hw2⟩ := hc.self rfl cur δ
        simp only [if_true, hw1, hw2, hD]
      · obtain ⟨r, hr, hg⟩ := hproc hti
        have hsub : checkedSub len (h + t') = .ok r := by
          rw [← hr, checkedSub_add_left]
        rw [if_neg fun e => hti (Nat.add_left_cancel e)]
        obtain ⟨w, hw1, hw2⟩ := hc.bwd cur (D t')
        simp only [hsub, hg, hw1, hw2]
    rw [hs, ih (cur + D t') (fun t ht => hts t (List.mem_cons_of_mem _ ht)), add_assoc]

section
-- `h`, `lt`: how many layers precede and follow the stretch (`lt` is not a layer, as it is in `SkipWalk`); `γ`: the gradient handed
-- to the stretch; `W0`, `B0`, `G0`: what the reverse walk has recorded when it reaches the stretch (`G0` both for the gradients
-- handed on and for the processed-input gradients: over the tail, which no connection touches, the two agree)
variable (n : Network ℝ) (h lt : Nat) (body : List (Link m)) (tbl : List (Nat × Nat)) (y γ : V m.T)
  (T : Trace ℝ) (inv : List (Nat × List Nat)) (W0 : List (WGrad ℝ)) (B0 : List (BGrad ℝ)) (G0 : List (Tensor ℝ))

abbrev sw (k : Nat) : V m.T × (Nat → V m.T) :=
  SkipDag.sweep (dagNet body tbl) (tgs inv h) y body.length γ k

/-- the state of the reverse walk after `k` layers of the stretch -/
def bst (em : Nat → Enc m) : Nat → BackState ℝ
  | 0 => (W0, B0, G0, G0)
  | k + 1 =>
    let s := bst em k
    let i := body.length - (k + 1)
    let Gk := (sw h body tbl y γ inv k).1
    let p := SkipDag.P (dagNet body tbl) i y
    match body[i]? with
    | some lk => (s.1 ++ [(lk.wg p Gk).1], s.2.1 ++ [(lk.wg p Gk).2],
        s.2.2.1 ++ [em i (sw h body tbl y γ inv (k + 1)).1], s.2.2.2 ++ [em i (lk.b p Gk)])
    | none => s

theorem sw_succ (k i : Nat) (hi : i + (k + 1) = body.length) (lk : Link m) (hlk : body[i]? = some lk) :
    (sw h body tbl y γ inv (k + 1)).2 i = lk.b (SkipDag.P (dagNet body tbl) i y) (sw h body tbl y γ inv k).1 ∧
    (∀ t, t ≠ i → (sw h body tbl y γ inv (k + 1)).2 t = (sw h body tbl y γ inv k).2 t) ∧
    (sw h body tbl y γ inv (k + 1)).1 =
      lk.b (SkipDag.P (dagNet body tbl) i y) (sw h body tbl y γ inv k).1 +
        ((((Assoc.find? inv (h + i)).getD []).map (· - h)).map (sw h body tbl y γ inv (k + 1)).2).sum := by
  obtain rfl : i = body.length - (k + 1) := Nat.eq_sub_of_add_eq hi
  refine ⟨?_, fun t ht => SkipDag.sweep_D_other ht, ?_⟩
  · rw [SkipDag.sweep_D_self]
    simp only [dagNet, hlk]
    rfl
  · rw [SkipDag.sweep_succ_fst]
    simp only [dagNet, hlk, tgs]
    rfl

theorem bst_succ (k i : Nat) (hi : i + (k + 1) = body.length) (lk : Link m) (hlk : body[i]? = some lk) :
    bst h body tbl y γ inv W0 B0 G0 em (k + 1) =
      ((bst h body tbl y γ inv W0 B0 G0 em k).1 ++ [(lk.wg (SkipDag.P (dagNet body tbl) i y) (sw h body tbl y γ inv k).1).1],
       (bst h body tbl y γ inv W0 B0 G0 em k).2.1 ++ [(lk.wg (SkipDag.P (dagNet body tbl) i y) (sw h body tbl y γ inv k).1).2],
       (bst h body tbl y γ inv W0 B0 G0 em k).2.2.1 ++ [em i (sw h body tbl y γ inv (k + 1)).1],
       (bst h body tbl y γ inv W0 B0 G0 em k).2.2.2 ++ [em i (lk.b (SkipDag.P (dagNet body tbl) i y) (sw h body tbl y γ inv k).1)]) := by
  obtain rfl : i = body.length - (k + 1) := Nat.eq_sub_of_add_eq hi
  rw [bst]
  simp only [hlk]

theorem bst_grads_last (hG0 : G0.getLast? = some (em body.length γ)) (k i : Nat) (hi : i + k = body.length) :
    (bst h body tbl y γ inv W0 B0 G0 em k).2.2.1.getLast? = some (em i (sw h body tbl y γ inv k).1) := by
  cases k with
  | zero =>
    obtain rfl : i = body.length := hi
    exact hG0
  | succ k =>
    rw [bst_succ h body tbl y γ inv W0 B0 G0 k i hi _
      (List.getElem?_eq_getElem (Nat.lt_of_lt_of_eq (Nat.lt_add_of_pos_right (Nat.succ_pos k)) hi))]
    exact List.getLast?_concat ..

/-- what the reverse walk has recorded after `k` layers of the stretch: the entries written in step `r + 1`, for the
    layer `t` with `t + (r + 1) = body.length`, sit `r` places after the initial lists -/
theorem bst_spec (k : Nat) (hk : k ≤ body.length) :
    (bst h body tbl y γ inv W0 B0 G0 em k).1.length = W0.length + k ∧ (bst h body tbl y γ inv W0 B0 G0 em k).2.1.length = B0.length + k ∧
    (bst h body tbl y γ inv W0 B0 G0 em k).2.2.2.length = G0.length + k ∧
    ∀ r t, r < k → t + (r + 1) = body.length → ∀ lk : Link m, body[t]? = some lk →
      (bst h body tbl y γ inv W0 B0 G0 em k).1[W0.length + r]? = some (lk.wg (SkipDag.P (dagNet body tbl) t y) (sw h body tbl y γ inv r).1).1 ∧
      (bst h body tbl y γ inv W0 B0 G0 em k).2.1[B0.length + r]? = some (lk.wg (SkipDag.P (dagNet body tbl) t y) (sw h body tbl y γ inv r).1).2 ∧
      (bst h body tbl y γ inv W0 B0 G0 em k).2.2.2[G0.length + r]? = some (em t ((sw h body tbl y γ inv k).2 t)) := by
  induction k with
  | zero => exact ⟨rfl, rfl, rfl, fun r _ hr => absurd hr (Nat.not_lt_zero r)⟩
  | succ k ih =>
    obtain ⟨l1, l2, l3, ih⟩ := ih (Nat.le_of_succ_le hk)
    obtain ⟨i, hi⟩ : ∃ i, i + (k + 1) = body.length := ⟨_, Nat.sub_add_cancel hk⟩
    have hlk := List.getElem?_eq_getElem (Nat.lt_of_lt_of_eq (Nat.lt_add_of_pos_right (Nat.succ_pos k)) hi)
    obtain ⟨hself, hother, _⟩ := sw_succ h body tbl y γ inv k i hi _ hlk
    rw [bst_succ h body tbl y γ inv W0 B0 G0 k i hi _ hlk]
    refine ⟨by rw [List.length_append, l1]; rfl, by rw [List.length_append, l2]; rfl, by rw [List.length_append, l3]; rfl,
      fun r t hr ht lk' hlk' => ?_⟩
    rcases Nat.lt_succ_iff_lt_or_eq.mp hr with h1 | rfl
    · -- written in an earlier step: `t` is not the layer visited now
      have hne : t ≠ i := fun e =>
        Nat.ne_of_lt h1 (Nat.succ_injective (Nat.add_left_cancel ((e ▸ ht).trans hi.symm)))
      rw [List.getElem?_append_left (l1 ▸ Nat.add_lt_add_left h1 _), List.getElem?_append_left (l2 ▸ Nat.add_lt_add_left h1 _),
        List.getElem?_append_left (l3 ▸ Nat.add_lt_add_left h1 _), hother t hne]
      exact ih r t h1 ht lk' hlk'
    · obtain rfl : t = i := Nat.add_right_cancel (ht.trans hi.symm)
      obtain rfl := Option.some.inj (hlk.symm.trans hlk')
      rw [← l1, ← l2, ← l3, List.getElem?_concat_length, List.getElem?_concat_length, List.getElem?_concat_length, hself]
      exact ⟨rfl, rfl, rfl⟩

/-- one `backwardStep` of the model, at the layer of the stretch visited in step `k + 1`, takes `bst k` to `bst (k + 1)`.
    `back_body` repeats the hypotheses: the network adds, which the encodings allow (`hacc`, `hcomp`), and connects as the table
    says (`hsrc`, `hconn`, `hinv`); the trace holds the values of `SkipDag` (`hTact`, `hTpre`, `hTrec`); the layers compute their
    functions (`hreal`); `lt` layers follow, over which the walk has recorded `G0` (`hlen`, `hG0len`, `hG0`). -/
theorem back_step (hacc : n.skipaccumulation = .add) (hcomp : ∀ t s, Assoc.find? tbl t = some s → Compat (em t) (em s))
    (hsrc : ∀ t s, Assoc.find? tbl t = some s → s ≤ t)
    (hconn : ∀ k, k < body.length → Assoc.find? n.connect (h + k) = (Assoc.find? tbl k).map (h + ·))
    (hTact : ∀ j, j ≤ body.length → L.get T.act (h + j) = .ok (em j (SkipDag.U (dagNet body tbl) j y)))
    (hTpre : ∀ j (lk : Link m), body[j]? = some lk → L.get T.pre (h + j) = .ok (lk.pre (SkipDag.P (dagNet body tbl) j y)))
    (hTrec : ∀ j (lk : Link m), body[j]? = some lk → L.get T.recs (h + j) = .ok (lk.rc (SkipDag.P (dagNet body tbl) j y)))
    (hreal : ∀ j (lk : Link m), body[j]? = some lk → lk.Real (em j) (em (j + 1)) (SkipDag.P (dagNet body tbl) j y))
    (hlen : n.layers.length = h + body.length + lt) (hG0len : G0.length = lt + 1) (hG0 : G0.getLast? = some (em body.length γ))
    (hinv : ∀ i, i < body.length → ∀ t ∈ (Assoc.find? inv (h + i)).getD [], ∃ t', t = h + t' ∧ i ≤ t' ∧ t' < body.length ∧ Assoc.find? tbl t' = some i)
    (k : Nat) (hk : k < body.length) (lk : Link m) (hlk : body[body.length - (k + 1)]? = some lk) :
    backwardStep n T inv (.ok (bst h body tbl y γ inv W0 B0 G0 em k)) (h + (body.length - (k + 1)), lk.l) =
      .ok (bst h body tbl y γ inv W0 B0 G0 em (k + 1)) := by
  obtain ⟨i, hi⟩ : ∃ i, body.length - (k + 1) = i := ⟨_, rfl⟩
  have hik : i + (k + 1) = body.length := hi ▸ Nat.sub_add_cancel hk
  have hil : i < body.length := Nat.lt_of_lt_of_eq (Nat.lt_add_of_pos_right (Nat.succ_pos k)) hik
  rw [hi] at hlk ⊢
  obtain ⟨hDs, hDo, hF⟩ := sw_succ h body tbl y γ inv k i hik lk hlk
  rw [bst_succ h body tbl y γ inv W0 B0 G0 k i hik lk hlk]
  refine back_cell n T inv (h + i) lk.l _ _ _ _
    (skipInput_body n h body tbl y hacc hcomp hsrc i (hconn i hil) T.act (fun j hj => hTact j (Nat.le_trans hj (Nat.le_of_lt hil))))
    (hTpre i lk hlk) (bst_grads_last h body tbl y γ inv W0 B0 G0 hG0 k (i + 1) ((Nat.add_right_comm i 1 k).trans hik))
    (by rw [hTrec i lk hlk]; exact (hreal i lk hlk).2 _) ?_
  -- left: `hfold` of `back_cell`, what source `i` adds up over its targets
  rw [fold_addSkip n.layers.length h i _ _ (sw h body tbl y γ inv (k + 1)).2 hDs _ _, hF]
  intro t ht
  obtain ⟨t', rfl, h1, h2, h3⟩ := hinv i hil t ht
  refine ⟨t', rfl, hcomp t' i h3, fun hne => ?_⟩
  -- the target `t'` was visited in step `r + 1`, so its gradient sits `r` places after `G0`
  obtain ⟨r, hr⟩ := Nat.exists_eq_add_of_lt h2
  -- `checkedSub len target` comes to `G0.length + r`: `h + t' + (lt + 1 + r) = h + body.length + lt` (`hG0len`, `hlen`), as
  -- `body.length = t' + r + 1` (`hr`)
  refine ⟨G0.length + r, by omega, ?_⟩
  rw [L.get_ok_iff, hDo t' hne]
  exact ((bst_spec h body tbl y γ inv W0 B0 G0 k (Nat.le_of_lt hk)).2.2.2 r t' (by omega) hr.symm _
    (List.getElem?_eq_getElem h2)).2.2

theorem back_body (hacc : n.skipaccumulation = .add) (hcomp : ∀ t s, Assoc.find? tbl t = some s → Compat (em t) (em s))
    (hsrc : ∀ t s, Assoc.find? tbl t = some s → s ≤ t)
    (hconn : ∀ k, k < body.length → Assoc.find? n.connect (h + k) = (Assoc.find? tbl k).map (h + ·))
    (hTact : ∀ j, j ≤ body.length → L.get T.act (h + j) = .ok (em j (SkipDag.U (dagNet body tbl) j y)))
    (hTpre : ∀ j (lk : Link m), body[j]? = some lk → L.get T.pre (h + j) = .ok (lk.pre (SkipDag.P (dagNet body tbl) j y)))
    (hTrec : ∀ j (lk : Link m), body[j]? = some lk → L.get T.recs (h + j) = .ok (lk.rc (SkipDag.P (dagNet body tbl) j y)))
    (hreal : ∀ j (lk : Link m), body[j]? = some lk → lk.Real (em j) (em (j + 1)) (SkipDag.P (dagNet body tbl) j y))
    (hlen : n.layers.length = h + body.length + lt) (hG0len : G0.length = lt + 1) (hG0 : G0.getLast? = some (em body.length γ))
    (hinv : ∀ i, i < body.length → ∀ t ∈ (Assoc.find? inv (h + i)).getD [], ∃ t', t = h + t' ∧ i ≤ t' ∧ t' < body.length ∧ Assoc.find? tbl t' = some i) :
    ∀ j, j ≤ body.length →
      (List.zip (List.range' h ((body.take j).map (·.l)).length) ((body.take j).map (·.l))).reverse.foldl (backwardStep n T inv)
        (.ok (bst h body tbl y γ inv W0 B0 G0 em (body.length - j))) = .ok (bst h body tbl y γ inv W0 B0 G0 em body.length) := by
  intro j
  induction j with
  | zero => intro _; simp
  | succ j ih =>
    intro hj
    have hjl : j < body.length := hj
    -- layer `j` is visited in step `body.length - j`
    have e : body.length - (j + 1) + 1 = body.length - j := Nat.succ_pred_eq_of_pos (Nat.sub_pos_of_lt hjl)
    have e1 : body.length - (body.length - (j + 1) + 1) = j := SkipDag.step_visits hjl
    have hstep := back_step n h lt body tbl y γ T inv W0 B0 G0 hacc hcomp hsrc hconn hTact hTpre hTrec hreal hlen hG0len hG0 hinv
      (body.length - (j + 1)) (Nat.sub_lt (Nat.zero_lt_of_lt hjl) (Nat.succ_pos j)) body[j]
      (by rw [e1]; exact List.getElem?_eq_getElem hjl)
    rw [e1, e] at hstep
    have hlenj : ((body.take j).map (·.l)).length = j := by rw [List.length_map, List.length_take, Nat.min_eq_left (Nat.le_of_lt hjl)]
    rw [List.take_succ_eq_append_getElem hjl, List.map_append, List.map_cons, List.map_nil, L.zip_range'_snoc, List.reverse_append,
      List.reverse_cons, List.reverse_nil, List.nil_append, List.singleton_append, List.foldl_cons, hlenj, hstep]
    have := ih (Nat.le_of_lt hjl)
    rwa [hlenj] at this

end

def shift (h : Nat) (e : Nat × Nat) : Nat × Nat := (h + e.1, h + e.2)

theorem shift_zero : shift 0 = id := by
  funext e
  simp only [shift, Nat.zero_add, id]

theorem find?_shift (h : Nat) (tbl : List (Nat × Nat)) (k : Nat) :
    Assoc.find? (tbl.map (shift h)) (h + k) = (Assoc.find? tbl k).map (h + ·) := by
  induction tbl with
  | nil => rfl
  | cons e rest ih =>
    obtain ⟨t, s⟩ := e
    simp only [List.map_cons, shift, Assoc.find?]
    by_cases htk : t = k
    · subst htk; simp
    · rw [if_neg (fun h' => htk (Nat.add_left_cancel h')), if_neg htk]; exact ih

section
variable (head : Chain a ea m (em 0)) (body : List (Link m)) (tbl : List (Nat × Nat)) (tail : Chain m (em body.length) c ec)

def dagFn (x : V a.T) : V c.T :=
  (gnet tail).fwd (SkipDag.U (dagNet body tbl) body.length ((gnet head).fwd x))

def dagTrace (x : V a.T) : Trace ℝ :=
  let y := (gnet head).fwd x
  let z := SkipDag.U (dagNet body tbl) body.length y
  { pre := pres head x ++ mapOff (fun j lk => lk.pre (SkipDag.P (dagNet body tbl) j y)) 0 body ++ pres tail z,
    act := (ea x :: acts head x) ++ mapOff (fun j _ => em (j + 1) (SkipDag.U (dagNet body tbl) (j + 1) y)) 0 body ++ acts tail z,
    recs := recs head x ++ mapOff (fun j lk => lk.rc (SkipDag.P (dagNet body tbl) j y)) 0 body ++ recs tail z }

theorem acts_body_last (x : V a.T) :
    ((ea x :: acts head x) ++ mapOff (fun j _ => em (j + 1) (SkipDag.U (dagNet body tbl) (j + 1) ((gnet head).fwd x))) 0 body).getLast? =
      some (em body.length (SkipDag.U (dagNet body tbl) body.length ((gnet head).fwd x))) := by
  have := getLast?_mapOff (em := em) (fun j => SkipDag.U (dagNet body tbl) j ((gnet head).fwd x)) body 0 (ea x :: acts head x)
    (by rw [SkipDag.U]; exact acts_last head x)
  rwa [Nat.zero_add] at this

theorem dagTrace_holds (x : V a.T) :
    Holds (dagTrace head body tbl tail x) 0 head x ∧
    Holds (dagTrace head body tbl tail x) ((LayerChain.layers head).length + body.length) tail
      (SkipDag.U (dagNet body tbl) body.length ((gnet head).fwd x)) := by
  obtain ⟨h1, h2, h3⟩ := lengths head x
  exact ⟨⟨(sits_append_left _ _).left.tail, (sits_append_left _ _).left, (sits_append_left _ _).left⟩,
    ⟨(sits_append_right _ _).cast (by simp [h2, length_mapOff]), (sits_append_right _ _).cast (by simp [h1, length_mapOff]),
      (sits_append_right _ _).cast (by simp [h3, length_mapOff])⟩⟩

theorem dagTrace_act (x : V a.T) (j : Nat) (hj : j ≤ body.length) :
    L.get (dagTrace head body tbl tail x).act ((LayerChain.layers head).length + j) =
      .ok (em j (SkipDag.U (dagNet body tbl) j ((gnet head).fwd x))) := by
  have hl : (ea x :: acts head x).length = (LayerChain.layers head).length + 1 := by rw [List.length_cons, (lengths head x).2.1]
  cases j with
  | zero =>
    have := (sits_append_left _ _ : Sits _ _ (dagTrace head body tbl tail x).act).left.last (acts_last head x) hl
    rw [SkipDag.U]
    rwa [Nat.zero_add] at this
  | succ j =>
    have := (sits_mid _ _ _ : Sits _ _ (dagTrace head body tbl tail x).act).get j _
      (by rw [getElem?_mapOff, List.getElem?_eq_getElem hj]; rfl)
    rwa [Nat.zero_add, hl, Nat.add_assoc, Nat.add_comm 1 j] at this

theorem dagTrace_pre (x : V a.T) (j : Nat) (lk : Link m) (hlk : body[j]? = some lk) :
    L.get (dagTrace head body tbl tail x).pre ((LayerChain.layers head).length + j) =
      .ok (lk.pre (SkipDag.P (dagNet body tbl) j ((gnet head).fwd x))) := by
  have := (sits_mid _ _ _ : Sits _ _ (dagTrace head body tbl tail x).pre).get j _ (by rw [getElem?_mapOff, hlk]; rfl)
  rwa [(lengths head x).1, Nat.zero_add] at this

theorem dagTrace_recs (x : V a.T) (j : Nat) (lk : Link m) (hlk : body[j]? = some lk) :
    L.get (dagTrace head body tbl tail x).recs ((LayerChain.layers head).length + j) =
      .ok (lk.rc (SkipDag.P (dagNet body tbl) j ((gnet head).fwd x))) := by
  have := (sits_mid _ _ _ : Sits _ _ (dagTrace head body tbl tail x).recs).get j _ (by rw [getElem?_mapOff, hlk]; rfl)
  rwa [(lengths head x).2.2, Nat.zero_add] at this

/-- the network: `head`, the stretch with its table of additive skip connections, `tail`; no loop
    connections.  Every connection goes from a layer of the stretch to the same or a later layer of the
    stretch, and no layer is the target of two connections. -/
structure IsDagNet (n : Network ℝ) : Prop where
  layers : n.layers = LayerChain.layers head ++ body.map (·.l) ++ LayerChain.layers tail
  connect : n.connect = tbl.map (shift (LayerChain.layers head).length)
  acc : n.skipaccumulation = .add
  loopbacks : n.loopbacks = []
  keys : (tbl.map Prod.fst).Nodup
  bounds : ∀ e ∈ tbl, e.2 ≤ e.1 ∧ e.1 < body.length

section
variable {head body tbl tail} {n : Network ℝ} (hn : IsDagNet head body tbl tail n)
include hn

theorem IsDagNet.src (t s : Nat) (h : Assoc.find? tbl t = some s) : s ≤ t :=
  (hn.bounds _ (Assoc.mem_of_find?_eq_some h)).1

theorem IsDagNet.find_in (k : Nat) :
    Assoc.find? n.connect ((LayerChain.layers head).length + k) = (Assoc.find? tbl k).map ((LayerChain.layers head).length + ·) := by
  rw [hn.connect]; exact find?_shift _ tbl k

theorem IsDagNet.invert_mem (s t0 : Nat) :
    t0 ∈ (Assoc.find? (invertSkips (tbl.map (shift (LayerChain.layers head).length))) ((LayerChain.layers head).length + s)).getD [] ↔
      ∃ t', t0 = (LayerChain.layers head).length + t' ∧ Assoc.find? tbl t' = some s := by
  rw [SkipTable.invert_mem]
  simp only [List.mem_map, shift, Prod.mk.injEq]
  constructor
  · rintro ⟨e, he, h1, h2⟩
    exact ⟨e.1, h1.symm, Nat.add_left_cancel h2 ▸ Assoc.find?_eq_some_of_mem hn.keys he⟩
  · rintro ⟨t', rfl, h2⟩
    exact ⟨(t', s), Assoc.mem_of_find?_eq_some h2, rfl, rfl⟩

theorem IsDagNet.invert_in (i t : Nat)
    (ht : t ∈ (Assoc.find? (invertSkips (tbl.map (shift (LayerChain.layers head).length))) ((LayerChain.layers head).length + i)).getD []) :
    ∃ t', t = (LayerChain.layers head).length + t' ∧ i ≤ t' ∧ t' < body.length ∧ Assoc.find? tbl t' = some i := by
  obtain ⟨t', ht', hf⟩ := (hn.invert_mem i t).mp ht
  have := hn.bounds _ (Assoc.mem_of_find?_eq_some hf)
  exact ⟨t', ht', this.1, this.2, hf⟩

theorem IsDagNet.free (i : Nat)
    (hi : i < (LayerChain.layers head).length ∨ (LayerChain.layers head).length + body.length ≤ i) :
    Assoc.find? n.connect i = none ∧ Assoc.find? (invertSkips (tbl.map (shift (LayerChain.layers head).length))) i = none := by
  rw [hn.connect]
  refine ⟨Assoc.find?_none fun hmem => ?_, SkipTable.invert_none _ _ fun e he => ?_⟩
  · simp only [List.map_map, List.mem_map, Function.comp_apply, shift] at hmem
    obtain ⟨e, he, hei⟩ := hmem
    have := (hn.bounds e he).2
    omega
  · simp only [List.mem_map, shift] at he
    obtain ⟨e0, he0, rfl⟩ := he
    have := hn.bounds e0 he0
    simp only
    omega

theorem IsDagNet.length :
    n.layers.length = (LayerChain.layers head).length + body.length + (LayerChain.layers tail).length := by
  rw [hn.layers, List.length_append, List.length_append, List.length_map]

end

theorem IsDagNet.of_nil_head {n : Network ℝ} {body : List (Link m)} {tbl : List (Nat × Nat)} {tail : Chain m (em body.length) c ec}
    (hl : n.layers = body.map (·.l) ++ LayerChain.layers tail) (hc : n.connect = tbl)
    (hacc : n.skipaccumulation = .add) (hlb : n.loopbacks = [])
    (hkeys : (tbl.map Prod.fst).Nodup) (hbd : ∀ e ∈ tbl, e.2 ≤ e.1 ∧ e.1 < body.length) :
    IsDagNet (Chain.nil m (em 0)) body tbl tail n where
  layers := hl
  connect := by
    show n.connect = tbl.map (shift 0)
    rw [hc, shift_zero, List.map_id]
  acc := hacc
  loopbacks := hlb
  keys := hkeys
  bounds := hbd

/-- **forward**: every layer of the stretch processes its ordinary input plus the input of its source -/
theorem forward_dag (n : Network ℝ) (hn : IsDagNet head body tbl tail n) (hcomp : ∀ t s, Assoc.find? tbl t = some s → Compat (em t) (em s)) (x : V a.T)
    (hrh : Real head x)
    (hrb : ∀ j (lk : Link m), body[j]? = some lk → lk.Real (em j) (em (j + 1)) (SkipDag.P (dagNet body tbl) j ((gnet head).fwd x)))
    (hrt : Real tail (SkipDag.U (dagNet body tbl) body.length ((gnet head).fwd x))) :
    n.forward (ea x) = .ok (dagTrace head body tbl tail x) := by
  have hlh := (lengths head x).2.1
  unfold Network.forward
  rw [hn.layers, List.range_eq_range', L.zip_range'_append, List.foldl_append, L.zip_range'_append, List.foldl_append]
  rw [forward_chain n hn.loopbacks head x hrh 0 _ rfl rfl (fun i _ h2 => (hn.free i (.inl (by rwa [Nat.zero_add] at h2))).1)]
  simp only [List.nil_append, Nat.zero_add]
  have hb := forward_body n _ body tbl _ hn.loopbacks hn.acc hcomp hn.src (fun k _ => hn.find_in k) body 0
    { pre := pres head x, act := [ea x] ++ acts head x, recs := recs head x } rfl (by simp [hlh])
    (fun j hj => by
      obtain rfl := Nat.le_zero.mp hj
      rw [SkipDag.U]
      exact (L.get_last_iff (by simp [hlh])).mpr (acts_last head x))
    (fun i lk hi => by simpa using hrb i lk hi)
  simp only [Nat.add_zero, List.length_map] at hb ⊢
  rw [hb]
  rw [List.length_append, List.length_map, forward_chain n hn.loopbacks tail _ hrt _ _ (acts_body_last head body tbl x)
    (by simp [hlh, length_mapOff]) (fun i h1 _ => (hn.free i (.inr h1)).1)]
  simp [dagTrace, List.append_assoc]

/-- the gradient the reverse walk hands to the layer at position `body.length - (r + 1)` of the stretch -/
def handedTo (x : V a.T) (g : V c.T) (r : Nat) : V m.T :=
  let y := (gnet head).fwd x
  let z := SkipDag.U (dagNet body tbl) body.length y
  (SkipDag.sweep (dagNet body tbl)
      (tgs (invertSkips (tbl.map (shift (LayerChain.layers head).length))) (LayerChain.layers head).length) y body.length
      ((gnet tail).bwd z g) r).1

def dagBwd (x : V a.T) (g : V c.T) : V a.T :=
  let y := (gnet head).fwd x
  let z := SkipDag.U (dagNet body tbl) body.length y
  (gnet head).bwd x
    (SkipDag.sweep (dagNet body tbl)
      (tgs (invertSkips (tbl.map (shift (LayerChain.layers head).length))) (LayerChain.layers head).length) y body.length
      ((gnet tail).bwd z g) body.length).1

/-- **backward**: the reverse walk over the recorded trace performs the sweep and ends in `dagBwd` -/
theorem backward_dag (n : Network ℝ) (hn : IsDagNet head body tbl tail n) (hcomp : ∀ t s, Assoc.find? tbl t = some s → Compat (em t) (em s)) (x : V a.T) (g : V c.T)
    (hrh : Real head x)
    (hrb : ∀ j (lk : Link m), body[j]? = some lk → lk.Real (em j) (em (j + 1)) (SkipDag.P (dagNet body tbl) j ((gnet head).fwd x)))
    (hrt : Real tail (SkipDag.U (dagNet body tbl) body.length ((gnet head).fwd x))) :
    ∃ ws bs gs, n.backward (ec g) (dagTrace head body tbl tail x) = .ok (ws, bs, gs) ∧
      gs.getLast? = some (ea (dagBwd head body tbl tail x g)) ∧
      ∀ r (lk : Link m), r < body.length → body[body.length - (r + 1)]? = some lk →
        ws[(LayerChain.layers tail).length + r]? =
          some (lk.wg (SkipDag.P (dagNet body tbl) (body.length - (r + 1)) ((gnet head).fwd x))
            (handedTo head body tbl tail x g r)).1 ∧
        bs[(LayerChain.layers tail).length + r]? =
          some (lk.wg (SkipDag.P (dagNet body tbl) (body.length - (r + 1)) ((gnet head).fwd x))
            (handedTo head body tbl tail x g r)).2 := by
  obtain ⟨hTh, hTt⟩ := dagTrace_holds head body tbl tail x
  have hact := dagTrace_act head body tbl tail x
  have hpre := dagTrace_pre head body tbl tail x
  have hrec := dagTrace_recs head body tbl tail x
  have h0 : L.get (dagTrace head body tbl tail x).act 0 = .ok (ea x) := rfl
  generalize dagTrace head body tbl tail x = T at *
  obtain ⟨y, hy⟩ : ∃ y, y = (gnet head).fwd x := ⟨_, rfl⟩
  rw [← hy] at hrb hrt hTt hact hpre hrec
  obtain ⟨z, hz⟩ : ∃ z, z = SkipDag.U (dagNet body tbl) body.length y := ⟨_, rfl⟩
  rw [← hz] at hrt hTt
  obtain ⟨inv, hinv⟩ : ∃ inv, inv = invertSkips (tbl.map (shift (LayerChain.layers head).length)) := ⟨_, rfl⟩
  obtain ⟨γ, hγ⟩ : ∃ γ, γ = (gnet tail).bwd z g := ⟨_, rfl⟩
  obtain ⟨ws1, hws1⟩ : ∃ ws1, ws1 = [] ++ (allGrads tail z g).map (·.1) := ⟨_, rfl⟩
  obtain ⟨bs1, hbs1⟩ : ∃ bs1, bs1 = [] ++ (allGrads tail z g).map (·.2) := ⟨_, rfl⟩
  obtain ⟨G1, hG1⟩ : ∃ G1, G1 = [ec g] ++ handed tail z g := ⟨_, rfl⟩
  have h1 := back_chain n T inv tail z g _ hrt hTt (hz ▸ hact body.length (Nat.le_refl _))
    (fun i hi _ => hinv ▸ hn.free i (.inr hi)) [ec g] [ec g] rfl [] []
  have hG0 := handed_getLast tail z g [ec g] rfl
  rw [← hws1, ← hbs1, ← hG1] at h1
  rw [← hG1, ← hγ] at hG0
  have hl1 : ws1.length = (LayerChain.layers tail).length := by simp [hws1, allGrads_length]
  have hl2 : bs1.length = (LayerChain.layers tail).length := by simp [hbs1, allGrads_length]
  have hl3 : G1.length = (LayerChain.layers tail).length + 1 := by simp [hG1, handed_length]
  have hbody := back_body n _ _ body tbl y γ T inv ws1 bs1 G1 hn.acc hcomp hn.src (fun k _ => hn.find_in k)
    hact hpre hrec hrb hn.length hl3 hG0 (fun i _ t ht => hn.invert_in i t (hinv ▸ ht)) body.length (Nat.le_refl _)
  have hb0 : bst (LayerChain.layers head).length body tbl y γ inv ws1 bs1 G1 em 0 = (ws1, bs1, G1, G1) := rfl
  rw [Nat.sub_self, hb0, List.take_length, List.length_map] at hbody
  have hlastN := bst_grads_last (em := em) (LayerChain.layers head).length body tbl y γ inv ws1 bs1 G1 hG0 body.length 0
    (Nat.zero_add _)
  have hws := bst_spec (em := em) (LayerChain.layers head).length body tbl y γ inv ws1 bs1 G1 body.length (Nat.le_refl _)
  rcases hS : bst (LayerChain.layers head).length body tbl y γ inv ws1 bs1 G1 em body.length with ⟨wsN, bsN, gradsN, procN⟩
  rw [hS] at hlastN hbody hws
  obtain ⟨σ, hσ⟩ : ∃ σ, σ = (sw (LayerChain.layers head).length body tbl y γ inv body.length).1 := ⟨_, rfl⟩
  rw [← hσ] at hlastN
  have h5 := back_chain n T inv head x σ 0 hrh hTh h0
    (fun i _ hi => hinv ▸ hn.free i (.inl (by rwa [Nat.zero_add] at hi))) gradsN procN hlastN wsN bsN
  refine ⟨wsN ++ (allGrads head x σ).map (·.1), bsN ++ (allGrads head x σ).map (·.2), gradsN ++ handed head x σ, ?_,
    (handed_getLast head x σ gradsN hlastN).trans ?_, ?_⟩
  · unfold Network.backward
    rw [hn.connect, ← hinv, hn.layers, List.range_eq_range', L.zip_range'_append, L.zip_range'_append, List.reverse_append, List.reverse_append,
      List.foldl_append, List.foldl_append, List.length_append, List.length_map, Nat.zero_add, Nat.zero_add, h1, hbody, h5]
  · simp only [dagBwd, hσ, hγ, hy, hz, hinv]
  · intro r lk hr hlk
    obtain ⟨e1, e2, _⟩ := hws.2.2.2 r _ hr (Nat.sub_add_cancel hr) lk hlk
    rw [hl1] at e1
    rw [hl2] at e2
    rw [List.getElem?_append_left (List.getElem?_eq_some_iff.mp e1).1, List.getElem?_append_left (List.getElem?_eq_some_iff.mp e2).1]
    simp only [handedTo, ← hy, ← hz, ← hγ, ← hinv]
    exact ⟨e1, e2⟩

theorem dag_targets (n : Network ℝ) (hn : IsDagNet head body tbl tail n) :
    SkipDag.Targets (dagNet body tbl) body.length
      (tgs (invertSkips (tbl.map (shift (LayerChain.layers head).length))) (LayerChain.layers head).length) := by
  set h := (LayerChain.layers head).length with hh
  have hkeys : ((tbl.map (shift h)).map Prod.fst).Nodup := by
    rw [List.map_map]
    have : (Prod.fst ∘ shift h) = (fun t => h + t) ∘ Prod.fst := by funext e; rfl
    rw [this, ← List.map_map]
    exact hn.keys.map (fun a b hab => by simpa using hab)
  intro s
  have hmem := hn.invert_mem s
  constructor
  · unfold tgs
    apply List.Nodup.map_on _ (invert_nodup _ hkeys (h + s))
    intro u hu v hv huv
    obtain ⟨u', rfl, _⟩ := (hmem u).mp hu
    obtain ⟨v', rfl, _⟩ := (hmem v).mp hv
    omega
  · intro t
    unfold tgs
    simp only [List.mem_map]
    constructor
    · rintro ⟨t0, ht0, rfl⟩
      obtain ⟨t', rfl, hf⟩ := (hmem t0).mp ht0
      rw [Nat.add_sub_cancel_left]
      exact ⟨(hn.bounds _ (Assoc.mem_of_find?_eq_some hf)).2, hf⟩
    · rintro ⟨_, hS⟩
      exact ⟨h + t, (hmem (h + t)).mpr ⟨t, rfl, hS⟩, Nat.add_sub_cancel_left ..⟩

theorem dag_isVJP (n : Network ℝ) (hn : IsDagNet head body tbl tail n) (x : V a.T) (hh : (gnet head).Ok x)
    (hb : ∀ j (lk : Link m), body[j]? = some lk →
      IsVJP lk.f (SkipDag.P (dagNet body tbl) j ((gnet head).fwd x)) (lk.b (SkipDag.P (dagNet body tbl) j ((gnet head).fwd x))))
    (ht : (gnet tail).Ok (SkipDag.U (dagNet body tbl) body.length ((gnet head).fwd x))) :
    IsVJP (dagFn head body tbl tail) x (dagBwd head body tbl tail x) := by
  -- not `exact IsVJP.comp …`: elaborated against the goal, `comp` reads its implicit functions off the unfolded `dagFn` and
  -- `dagBwd` and splits them in the wrong place
  have h := IsVJP.comp (IsVJP.comp (GNet.vjp (gnet head) x hh)
    (SkipDag.sweep_isVJP (dagNet body tbl) _ ((gnet head).fwd x) body.length (dag_ok body tbl _ hb) hn.src
      (dag_targets head body tbl tail n hn))) (GNet.vjp (gnet tail) _ ht)
  exact h

/-- **a network with any table of additive skip connections among layers of one shape, end to end on the
    model's own folds**: forward ends in the network function's value; the last gradient backward hands on is
    the gradient of the objective with respect to the network input -/
theorem dag_network_gradient (n : Network ℝ) (hn : IsDagNet head body tbl tail n) (hcomp : ∀ t s, Assoc.find? tbl t = some s → Compat (em t) (em s)) (x : V a.T)
    (hrh : Real head x)
    (hrb : ∀ j (lk : Link m), body[j]? = some lk → lk.Real (em j) (em (j + 1)) (SkipDag.P (dagNet body tbl) j ((gnet head).fwd x)))
    (hrt : Real tail (SkipDag.U (dagNet body tbl) body.length ((gnet head).fwd x)))
    (hh : (gnet head).Ok x)
    (hb : ∀ j (lk : Link m), body[j]? = some lk →
      IsVJP lk.f (SkipDag.P (dagNet body tbl) j ((gnet head).fwd x)) (lk.b (SkipDag.P (dagNet body tbl) j ((gnet head).fwd x))))
    (ht : (gnet tail).Ok (SkipDag.U (dagNet body tbl) body.length ((gnet head).fwd x)))
    (ℓ : V c.T → ℝ) (g : V c.T) (hg : IsGrad ℓ (dagFn head body tbl tail x) g) :
    ∃ t ws bs gs γ,
      n.forward (ea x) = .ok t ∧ t.act.getLast? = some (ec (dagFn head body tbl tail x)) ∧
      n.backward (ec g) t = .ok (ws, bs, gs) ∧ gs.getLast? = some (ea γ) ∧
      IsGrad (ℓ ∘ dagFn head body tbl tail) x γ ∧
      ∀ r (lk : Link m), r < body.length → body[body.length - (r + 1)]? = some lk →
        ws[(LayerChain.layers tail).length + r]? =
          some (lk.wg (SkipDag.P (dagNet body tbl) (body.length - (r + 1)) ((gnet head).fwd x))
            (handedTo head body tbl tail x g r)).1 ∧
        bs[(LayerChain.layers tail).length + r]? =
          some (lk.wg (SkipDag.P (dagNet body tbl) (body.length - (r + 1)) ((gnet head).fwd x))
            (handedTo head body tbl tail x g r)).2 := by
  obtain ⟨ws, bs, gs, hbk, hl, hw⟩ := backward_dag head body tbl tail n hn hcomp x g hrh hrb hrt
  refine ⟨_, ws, bs, gs, _, forward_dag head body tbl tail n hn hcomp x hrh hrb hrt, ?_, hbk, hl,
    IsGrad.comp_vjp (dag_isVJP head body tbl tail n hn x hh hb ht) hg, hw⟩
  exact acts_getLast tail _ _ (acts_body_last head body tbl x)

/-- the network output as a function of the parameters `θ` of the layer at position `c` of the stretch
    (`lay θ` is that layer's output on the input it processes) -/
def dagParamFn {π : Type} (c' : Nat) (lay : V π → V m.T) (bθ : V m.T → V π) (x : V a.T) : V π → V c.T :=
  fun θ => (gnet tail).fwd
    (SkipDagP.U (SkipDagP.paramNet (dagNet body tbl) ((gnet head).fwd x) c' lay bθ) body.length θ)

/-- **the weight gradient of a layer of the stretch**: the layer's parameter-VJP applied to the gradient the
    reverse walk hands to it is the gradient of the objective with respect to that layer's parameters -/
theorem dag_parameter_gradient {π : Type} [Fintype π] (n : Network ℝ) (hn : IsDagNet head body tbl tail n) (x : V a.T)
    (hb : ∀ j (lk : Link m), body[j]? = some lk →
      IsVJP lk.f (SkipDag.P (dagNet body tbl) j ((gnet head).fwd x)) (lk.b (SkipDag.P (dagNet body tbl) j ((gnet head).fwd x))))
    (ht : (gnet tail).Ok (SkipDag.U (dagNet body tbl) body.length ((gnet head).fwd x)))
    (c' : Nat) (hc : c' < body.length) (lk : Link m) (hlk : body[c']? = some lk)
    (lay : V π → V m.T) (bθ : V m.T → V π) (θ₀ : V π)
    (hlay : lay θ₀ = lk.f (SkipDag.P (dagNet body tbl) c' ((gnet head).fwd x))) (hθ : IsVJP lay θ₀ bθ)
    (ℓ : V c.T → ℝ) (g : V c.T) (hg : IsGrad ℓ (dagFn head body tbl tail x) g) :
    dagParamFn head body tbl tail c' lay bθ x θ₀ = dagFn head body tbl tail x ∧
    IsGrad (ℓ ∘ dagParamFn head body tbl tail c' lay bθ x) θ₀
      (bθ (handedTo head body tbl tail x g (body.length - (c' + 1)))) := by
  have hlay' : lay θ₀ = (dagNet body tbl).f c' (SkipDag.P (dagNet body tbl) c' ((gnet head).fwd x)) := by
    rw [hlay]
    simp only [dagNet, hlk]
  have hval := SkipDagP.param_values (dagNet body tbl) ((gnet head).fwd x) c' lay bθ θ₀ hlay' body.length
  have hfn : dagParamFn head body tbl tail c' lay bθ x θ₀ = dagFn head body tbl tail x := congrArg (gnet tail).fwd hval
  have hpg := SkipDagP.param_gradient (dagNet body tbl) ((gnet head).fwd x) c' lay bθ θ₀ hlay'
    (tgs (invertSkips (tbl.map (shift (LayerChain.layers head).length))) (LayerChain.layers head).length) body.length hc
    (dag_ok body tbl _ hb) (fun i s hs => hn.src i s hs) (dag_targets head body tbl tail n hn) hθ
  have h3 := GNet.vjp (gnet tail) _ ht
  rw [← hval] at h3
  have := IsGrad.comp_vjp (IsVJP.comp hpg h3) (hfn ▸ hg)
  rw [hval] at this
  exact ⟨hfn, this⟩

end

end SkipNet
