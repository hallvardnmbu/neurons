import Proofs.DeconvVJP
import Proofs.Encodings
import Props.C08

/-!
# `Deconv.forward` / `Deconv.backward` of the model on `I3`-indexed vectors (C01)
-/

open Finset BigOperators

namespace DeconvBridge
open VJP ConvVJP DeconvVJP ConvBridge L Scalar RealScalar

variable {kf kc kh kw ih iw oh ow : ℕ}

/-- the model layer is the transposed convolution with kernels `K`, element-wise activation `a`, no
    dropout in effect, announced shapes `kc × ih × iw → kf × oh × ow` -/
structure IsDeconv (l : Deconv ℝ) (a : Act) (K : V (I4 kf kc kh kw)) (ih iw oh ow : ℕ) : Prop where
  kernels : l.kernels = kernelT K
  inputs : l.inputs = .triple kc ih iw
  outputs : l.outputs = .triple kf oh ow
  act : l.act = a
  training : l.training = false
  size : Deconv.outputSize ih iw kf (kh, kw) l.stride l.padding = .ok (.triple kf oh ow)
  scale : l.scale l.loops = 1
  pos : 0 < kf ∧ 0 < kc ∧ 0 < kh ∧ 0 < ih ∧ 0 < oh

/-- the layer's pre-activation as a vector function of its input: the model's scatter loops -/
noncomputable abbrev pre (l : Deconv ℝ) (K : V (I4 kf kc kh kw)) (ih iw oh ow : ℕ) : V (I3 kc ih iw) → V (I3 kf oh ow) :=
  deconvPre l kf kc kh kw ih iw oh ow (toList4 K)

theorem scatter_eq (l : Deconv ℝ) (K : V (I4 kf kc kh kw)) (x : V (I3 kc ih iw)) :
    Deconv.scatter (toList3 x) (toList4 K) kf kc (Deconv.taps l ih iw kh kw oh ow) oh ow = toList3 (pre l K ih iw oh ow x) :=
  (toList3_rd3 (C08.deconv_produced_extent _ _ kf kc _ oh ow)).symm

theorem forward_gen (l : Deconv ℝ) (a : Act) (K : V (I4 kf kc kh kw)) (hl : IsDeconv l a K ih iw oh ow) (ha : a ≠ .softmax)
    (x : V (I3 kc ih iw)) :
    l.forward (T3 x) = match (if l.flatten then (T3 (fun i => Act.f a (pre l K ih iw oh ow x i))).flatten
        else .ok (T3 (fun i => Act.f a (pre l K ih iw oh ow x i)))) with
      | .error e => .error e
      | .ok post => .ok (T3 (pre l K ih iw oh ow x), post) := by
  obtain ⟨hkf, hkc, hkh, hih, hoh⟩ := hl.pos
  unfold Deconv.forward
  rw [entry_T3 x hkc hih, hl.kernels, kernelsOf_kernelT]
  dsimp only
  rw [kernelDims_toList4 K hkf hkc hkh]
  obtain ⟨r, m, rest, he, h1, h2⟩ := dims3_cons (toList3_dims x) hkc hih
  have hsc := scatter_eq (oh := oh) (ow := ow) l K x
  generalize hX : toList3 x = X at he hsc ⊢
  subst he
  simp only [h1, h2, hl.size, hsc, triple_toList3 _ hkf hoh, hl.act, act_forward_T3 a ha _ hkf hoh, hl.training]
  rw [finish_eval]
  generalize (if l.flatten = true then _ else _) = post
  cases post <;> rfl

/-- as `ConvBridge.delta` -/
noncomputable def delta (a : Act) (p g : V (I3 kf oh ow)) : V (I3 kf oh ow) := fun i => g i * Act.df a (p i) * 1

theorem delta_eq (a : Act) (p g : V (I3 kf oh ow)) : delta a p g = fun i => Act.df a (p i) * g i := by
  funext i
  simp only [delta]
  ring

noncomputable def bwdX (l : Deconv ℝ) (a : Act) (K : V (I4 kf kc kh kw)) (ih iw oh ow : ℕ) (x : V (I3 kc ih iw))
    (g : V (I3 kf oh ow)) : V (I3 kc ih iw) :=
  deconvBwd l kf kc kh kw ih iw oh ow (toList4 K) (toList3 x) (delta a (pre l K ih iw oh ow x) g)

noncomputable def bwdKer (l : Deconv ℝ) (a : Act) (K : V (I4 kf kc kh kw)) (ih iw oh ow : ℕ) (x : V (I3 kc ih iw))
    (g : V (I3 kf oh ow)) : V (I4 kf kc kh kw) :=
  deconvBwdK l kf kc kh kw ih iw oh ow (toList3 x) (toList4 K) (delta a (pre l K ih iw oh ow x) g)

theorem backward_eq (l : Deconv ℝ) (a : Act) (K : V (I4 kf kc kh kw)) (hl : IsDeconv l a K ih iw oh ow) (ha : a ≠ .softmax)
    (x : V (I3 kc ih iw)) (g : V (I3 kf oh ow)) (G : Tensor ℝ) (hG : G.getTriple l.outputs = .ok (toList3 g)) :
    l.backward G (T3 x) (T3 (pre l K ih iw oh ow x)) =
      .ok (T3 (bwdX l a K ih iw oh ow x g), T4 (bwdKer l a K ih iw oh ow x g), none) := by
  obtain ⟨hkf, hkc, hkh, hih, hoh⟩ := hl.pos
  unfold Deconv.backward
  rw [hG, hl.act, act_backward_T3 a ha _ hkf hoh]
  simp only [getTriple_T3, hl.kernels, kernelsOf_kernelT, hadamard3d_toList3, hl.scale, kernelDims_toList4 K hkf hkc hkh]
  obtain ⟨r, m, rest, he, h1, h2⟩ := dims3_cons (toList3_dims x) hkc hih
  obtain ⟨dr, dm, drest, hde, hd1, hd2⟩ := dims3_cons
    (toList3_dims (fun i => g i * Act.df a (pre l K ih iw oh ow x i) * 1)) hkf hoh
  have hdims := C08.deconv_gradient_shapes (toList3 x) (toList4 K)
    (toList3 (fun i => g i * Act.df a (pre l K ih iw oh ow x i) * 1)) kf kc kh kw ih iw (Deconv.taps l ih iw kh kw oh ow)
  have ht := triple_of_get hdims.1 hkc hih
  have hq := quadruple_of_get hdims.2 hkf hkc hkh
  generalize hD : toList3 (fun i => g i * Act.df a (pre l K ih iw oh ow x i) * 1) = D at hde ht hq ⊢
  generalize hX : toList3 x = X at he ht hq ⊢
  subst he hde
  simp only [h1, h2, hd1, hd2, ht, hq]
  rw [← hX, ← hD]
  rfl

end DeconvBridge
