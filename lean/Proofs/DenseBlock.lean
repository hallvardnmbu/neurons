import Proofs.ChainBlock
import Proofs.ChainLinks

/-!
# Feedback blocks of concrete layers (C01)

Dense, convolution and deconvolution layers as inner layers of a block whose unrolled list realises a chain
(`BlockLinks`); then the block that unrolls a stack of dense layers: the stack is a chain
(`ChainLinks.stackChain`), so forward records the stack's pre-activations and activations, backward returns
the gradient of the stack, and the block is a link of an outer chain.

The dense family (`blockRec`, `blockWG`, `consBlock`, `IsDenseBlock`, `real_block`) is the instance
`ch := stackChain s` of the chain family of Proofs/ChainBlock.lean (`blockRecd`, `blockWGs`, `consChainBlock`,
`IsChainBlock`, `real_chain_block`), proved through `block_forwardAll` / `block_backward` and written with the
stack's own `Stack.pres` / `Stack.acts`, as `C01.dense_block_is_link` is stated.  What is asked of the block differs
in one point: `IsDenseBlock` has no `flatten` field, since flattening leaves `vecT` alone (`flatten_vecT`).
-/

namespace BlockLinks
open Network Scalar VJP ConvVJP ConvBridge DeconvBridge Flat3 DenseBridge DenseStack LayerChain ConvNet ChainLinks ChainBlock

variable {k : Idx} {ek : Enc k}

theorem innerReal_dense {r c : ℕ} (l : DenseLayer ℝ) (a : Act) (W : V (Fin r × Fin c)) (b : Vec r) (hl : IsDense l a W b)
    (hin : l.inputs = .single c)
    (ha : a ≠ .softmax) (hr : 0 < r) (hc : 0 < c) (rest : Chain (iVec r) (eVec r) k ek) (ilr : List (InnerLayer ℝ)) (x : Vec c)
    (hrest : InnerReal rest ilr (denseFn (Act.f a) W b x)) :
    InnerReal (consDense l a W b rest) (.dense l :: ilr) x := by
  obtain ⟨h1, h2⟩ := real_dense l a W b hl ha hr hc x
  exact ⟨.dense l, ilr, rfl, rfl, by simp [InnerLayer.inputs, hin, eVec, vecT], h1, fun g r => h2 g, hrest⟩

theorem innerReal_conv {kf kc kh kw ih iw oh ow : ℕ} (l : Conv ℝ) (a : Act) (K : V (I4 kf kc kh kw))
    (hl : IsConv l a K ih iw oh ow) (ha : a ≠ .softmax) (hfl : l.flatten = false)
    (rest : Chain (iVol kf oh ow) (eVol kf oh ow) k ek) (ilr : List (InnerLayer ℝ)) (x : V (I3 kc ih iw))
    (hrest : InnerReal rest ilr (convFn l a K ih iw oh ow x)) :
    InnerReal (consConv l a K ih iw rest) (.conv l :: ilr) x := by
  obtain ⟨h1, h2⟩ := real_conv l a K hl ha hfl x
  exact ⟨.conv l, ilr, rfl, rfl, by simp [InnerLayer.inputs, hl.inputs, eVol, T3], h1, fun g r => h2 g, hrest⟩

theorem innerReal_deconv {kf kc kh kw ih iw oh ow : ℕ} (l : Deconv ℝ) (a : Act) (K : V (I4 kf kc kh kw))
    (hl : IsDeconv l a K ih iw oh ow) (ha : a ≠ .softmax) (hfl : l.flatten = false)
    (rest : Chain (iVol kf oh ow) (eVol kf oh ow) k ek) (ilr : List (InnerLayer ℝ)) (x : V (I3 kc ih iw))
    (hrest : InnerReal rest ilr (deconvFn l a K ih iw oh ow x)) :
    InnerReal (consDeconv l a K ih iw rest) (.deconv l :: ilr) x := by
  obtain ⟨h1, h2⟩ := real_deconv l a K hl ha hfl x
  exact ⟨.deconv l, ilr, rfl, rfl, by simp [InnerLayer.inputs, hl.inputs, eVol, T3], h1, fun g r => h2 g, hrest⟩

end BlockLinks

namespace DenseBlock
open Network Scalar FeedbackSpec Walk BlockWalk DenseStack VJP DenseBridge LayerChain ChainLinks ChainBlock

/-- the stack as the unrolled layer list of a feedback block -/
noncomputable def inner : {n k : ℕ} → Stack n k → List (InnerLayer ℝ)
  | _, _, .nil _ => []
  | _, _, .cons a W b rest => .dense (denseLayer a W b) :: inner rest

theorem inner_map : ∀ {n k : ℕ} (s : Stack n k), (inner s).map Layer.ofInner = s.layers := by
  intro n k s
  induction s with
  | nil _ => rfl
  | cons a W b rest ih => simp [inner, Stack.layers, ih, Layer.ofInner]

theorem inner_length : ∀ {n k : ℕ} (s : Stack n k), (inner s).length = s.layers.length :=
  fun s => by rw [← inner_map, List.length_map]

theorem innerReal_stack {n k : ℕ} (s : Stack n k) (x : Vec n) (hv : s.Valid) : InnerReal (stackChain s) (inner s) x := by
  induction s with
  | nil _ => rfl
  | cons a W b rest ih =>
    obtain ⟨ha, hn, hm, hrest⟩ := hv
    exact BlockLinks.innerReal_dense _ a W b (denseLayer_isDense a W b) rfl ha hm hn _ _ x (ih _ hrest)

structure IsDenseBlock {n k : ℕ} (f : Feedback ℝ) (s : Stack n k) : Prop where
  layers : f.layers = inner s
  connect : f.connect = []

theorem acts_last {n k : ℕ} (s : Stack n k) (x : Vec n) :
    (vecT x :: s.acts x).getLast? = some (vecT (s.net.fwd x)) := by
  rw [← (stackChain_trace s x).2.1, ← stack_gnet_fwd]
  exact LayerChain.acts_last (stackChain s) x

theorem block_forwardAll {n k : ℕ} (f : Feedback ℝ) (s : Stack n k) (h : IsDenseBlock f s) (hv : s.Valid)
    (hpos : 0 < s.layers.length) (x : Vec n) :
    f.forwardAll (vecT x) = .ok (s.pres x, vecT x :: s.acts x, (inner s).map fun _ => none) := by
  have := forwardAll_chain f (stackChain s) (inner s) x h.layers h.connect (fun _ => flatten_vecT _)
    (innerReal_stack s x hv) (by rw [← List.length_pos_iff, inner_length]; exact hpos)
  obtain ⟨h1, h2, h3⟩ := stackChain_trace s x
  rw [h1, h2, h3, ← inner_map] at this
  simpa [maxOf, eVec, Function.comp_def] using this

theorem block_backward {n k : ℕ} (f : Feedback ℝ) (s : Stack n k) (h : IsDenseBlock f s) (hv : s.Valid)
    (x : Vec n) (g : Vec k) :
    ∃ ws bs, f.backward (vecT g) (s.pres x) (vecT x :: s.acts x) = .ok (vecT (s.net.bwd x g), ws, bs) := by
  have := backward_chain f (stackChain s) (inner s) h.layers h.connect x (innerReal_stack s x hv) g
  rwa [(stackChain_trace s x).1, (stackChain_trace s x).2.1, stack_gnet_bwd] at this

end DenseBlock

/-! ### such a block as a link of a chain -/

namespace ChainLinks
open Network Scalar VJP DenseBridge DenseStack LayerChain DenseBlock
variable {n k : ℕ}

noncomputable def blockRec (s : Stack n k) (x : Vec n) : Recorded ℝ :=
  .block (s.pres x) (vecT x :: s.acts x) ((inner s).map fun _ => none)

noncomputable def blockWG (f : Feedback ℝ) (s : Stack n k) (x : Vec n) (g : Vec k) : WGrad ℝ × BGrad ℝ :=
  match f.backward (vecT g) (s.pres x) (vecT x :: s.acts x) with
  | .ok (_, ws, bs) => (.block ws, .block bs)
  | .error _ => (.block [], .block [])

noncomputable def consBlock {m : Idx} {em : Enc m} (f : Feedback ℝ) (s : Stack n k)
    (rest : Chain (iVec k) (eVec k) m em) : Chain (iVec n) (eVec n) m em :=
  .cons (.feedback f) s.net.fwd s.net.bwd (fun x => (s.pres x).head?.getD (vecT x)) (blockRec s) (blockWG f s) rest

theorem real_block (f : Feedback ℝ) (s : Stack n k) (hf : IsDenseBlock f s) (hv : s.Valid) (hpos : 0 < s.layers.length)
    (x : Vec n) :
    layerForward (.feedback f) (vecT x) = .ok ((s.pres x).head?.getD (vecT x), vecT (s.net.fwd x), blockRec s x) ∧
    ∀ g, layerBackward (.feedback f) (vecT g) (vecT x) ((s.pres x).head?.getD (vecT x)) (.ok (blockRec s x)) =
      .ok (vecT (s.net.bwd x g), (blockWG f s x g).1, (blockWG f s x g).2) := by
  refine ⟨?_, fun g => ?_⟩
  · obtain ⟨u0, hu0⟩ := ChainBlock.pres_head (stackChain s) (inner s) x (innerReal_stack s x hv)
      (by rw [← List.length_pos_iff, inner_length]; exact hpos)
    rw [(stackChain_trace s x).1] at hu0
    simp only [layerForward, Feedback.forward, block_forwardAll f s hf hv hpos x, DenseBlock.acts_last s x, hu0]
    rfl
  · obtain ⟨ws, bs, hb⟩ := block_backward f s hf hv x g
    simp only [layerBackward, blockRec, blockWG, hb]

theorem vjp_block (s : Stack n k) (hv : s.Valid) (x : Vec n) (hk : s.NoKinks x) :
    IsVJP s.net.fwd x (s.net.bwd x) :=
  Net.vjp s.net x (Stack.net_ok s x hv hk)

end ChainLinks
