import Proofs.Scatter

/-!
# Scatter is the adjoint of gather: inner products of scattered tensors

`ip3 C H W a b` is the inner product of two 3-D nested lists over the index box `C × H × W`.
After any list of in-box additive updates, the inner product with `b` has grown by
`Σ_u u.v · b[u.pos]` (`ip3_scatter`).  This is what makes "backward scatters what forward gathered"
(and vice versa) an adjoint identity without any index arithmetic.
-/

open Finset

namespace Adjoint
open Scatter

noncomputable def ip3 (C H W : ℕ) (a b : V3 ℝ) : ℝ :=
  ∑ c ∈ range C, ∑ i ∈ range H, ∑ j ∈ range W, L.get3D 0 a c i j * L.get3D 0 b c i j

theorem sum_getD_modAt {β : Type} (d : β) (h : β → β) (y : List β) (f F : ℕ) (hf : f < y.length) (hF : f < F)
    (φ : ℕ → β → ℝ) (δ : ℝ) (hδ : φ f (h (y.getD f d)) = φ f (y.getD f d) + δ) :
    ∑ f' ∈ range F, φ f' ((L.modAt h y f).getD f' d) = ∑ f' ∈ range F, φ f' (y.getD f' d) + δ := by
  have hpt : ∀ f', φ f' ((L.modAt h y f).getD f' d) = φ f' (y.getD f' d) + if f = f' then δ else 0 := by
    intro f'
    rw [L.getD_modAt]
    by_cases e : f = f'
    · subst e
      rw [if_pos ⟨rfl, hf⟩, if_pos rfl, hδ]
    · rw [if_neg (fun h => e h.1), if_neg e, add_zero]
  simp only [hpt, sum_add_distrib, sum_ite_eq, mem_range, hF, if_true]

theorem ip3_mod3 (C H W : ℕ) (y b : V3 ℝ) (c i j : ℕ) (v : ℝ) (hb : InBounds y c i j)
    (hc : c < C) (hi : i < H) (hj : j < W) :
    ip3 C H W (L.mod3 (· + v) y c i j) b = ip3 C H W y b + v * L.get3D 0 b c i j := by
  simp only [ip3, L.get3D_eq, L.mod3]
  -- channel, row, cell: one level each
  apply sum_getD_modAt [] _ y c C hb.1 hc (fun c' m => ∑ i' ∈ range H, ∑ j' ∈ range W,
    (m.getD i' []).getD j' 0 * ((b.getD c' []).getD i' []).getD j' 0)
  apply sum_getD_modAt [] _ _ i H hb.2.1 hi (fun i' r => ∑ j' ∈ range W, r.getD j' 0 * ((b.getD c []).getD i' []).getD j' 0)
  apply sum_getD_modAt 0 _ _ j W hb.2.2 hj (fun j' x => x * ((b.getD c []).getD i []).getD j' 0)
  exact add_mul _ _ _

/-- **scatter/gather duality** -/
theorem ip3_scatter (C H W : ℕ) (b : V3 ℝ) : ∀ (us : List Upd) (y : V3 ℝ),
    (∀ u ∈ us, InBounds y u.c u.i u.j ∧ u.c < C ∧ u.i < H ∧ u.j < W) →
    ip3 C H W (us.foldl (fun acc u => L.mod3 (· + u.v) acc u.c u.i u.j) y) b =
      ip3 C H W y b + (us.map (fun u => u.v * L.get3D 0 b u.c u.i u.j)).sum := by
  intro us y
  refine foldl_additive (fun y : V3 ℝ => ip3 C H W y b) (fun y u => InBounds y u.c u.i u.j ∧ u.c < C ∧ u.i < H ∧ u.j < W)
    (fun y u u' h => ?_) (fun y u h => ?_) us y
  · exact ⟨inB_mod3.mpr h.1, h.2⟩
  · exact ip3_mod3 C H W y b u.c u.i u.j u.v h.1 h.2.1 h.2.2.1 h.2.2.2

theorem ip3_scatter_zeros (C H W : ℕ) (b : V3 ℝ) (us : List Upd)
    (hb : ∀ u ∈ us, u.c < C ∧ u.i < H ∧ u.j < W) :
    ip3 C H W (us.foldl (fun acc u => L.mod3 (· + u.v) acc u.c u.i u.j) (L.replicate3 C H W 0)) b =
      (us.map (fun u => u.v * L.get3D 0 b u.c u.i u.j)).sum := by
  rw [ip3_scatter C H W b us (L.replicate3 C H W 0) (fun u hu => ⟨inB_replicate 0 (hb u hu).1 (hb u hu).2.1 (hb u hu).2.2, hb u hu⟩)]
  simp only [ip3, get3D_replicate, zero_mul, sum_const_zero, zero_add]

end Adjoint

/-! ## Scatter/gather duality for 4-D tables (kernel gradients) -/

namespace Adjoint4
open Scatter Adjoint

def InBounds4 (y : V4 ℝ) (f c i j : ℕ) : Prop := f < y.length ∧ InBounds (y.getD f []) c i j

theorem inBounds4_mod4 {g : ℝ → ℝ} {y : V4 ℝ} {f c i j f' c' i' j' : ℕ} :
    InBounds4 (L.mod4 g y f c i j) f' c' i' j' ↔ InBounds4 y f' c' i' j' := by
  unfold InBounds4 L.mod4
  rw [L.length_modAt, L.getD_modAt]
  by_cases h : f = f' ∧ f' < y.length
  · rw [if_pos h]
    exact and_congr_right fun _ => inB_mod3
  · rw [if_neg h]

structure Upd4 where
  f : ℕ
  c : ℕ
  i : ℕ
  j : ℕ
  v : ℝ

noncomputable def ip4 (F C H W : ℕ) (a b : V4 ℝ) : ℝ :=
  ∑ f ∈ range F, ∑ c ∈ range C, ∑ i ∈ range H, ∑ j ∈ range W, L.get4D 0 a f c i j * L.get4D 0 b f c i j

/-- a table is a list of 3-D tensors: one more level of nesting above `ip3_mod3` -/
theorem ip4_mod4 (F C H W : ℕ) (y b : V4 ℝ) (f c i j : ℕ) (v : ℝ) (hb : InBounds4 y f c i j)
    (hf : f < F) (hc : c < C) (hi : i < H) (hj : j < W) :
    ip4 F C H W (L.mod4 (· + v) y f c i j) b = ip4 F C H W y b + v * L.get4D 0 b f c i j := by
  simp only [ip4, L.get4D_eq, L.mod4]
  exact sum_getD_modAt [] _ y f F hb.1 hf (fun f' t => ip3 C H W t (b.getD f' [])) _
    (ip3_mod3 C H W _ _ c i j v hb.2 hc hi hj)

theorem ip4_scatter (F C H W : ℕ) (b : V4 ℝ) (us : List Upd4) (y : V4 ℝ)
    (hb : ∀ u ∈ us, InBounds4 y u.f u.c u.i u.j ∧ u.f < F ∧ u.c < C ∧ u.i < H ∧ u.j < W) :
    ip4 F C H W (us.foldl (fun acc u => L.mod4 (· + u.v) acc u.f u.c u.i u.j) y) b =
      ip4 F C H W y b + (us.map (fun u => u.v * L.get4D 0 b u.f u.c u.i u.j)).sum := by
  refine foldl_additive (fun y : V4 ℝ => ip4 F C H W y b)
    (fun y u => InBounds4 y u.f u.c u.i u.j ∧ u.f < F ∧ u.c < C ∧ u.i < H ∧ u.j < W)
    (fun y u u' h => ?_) (fun y u h => ?_) us y hb
  · exact ⟨inBounds4_mod4.mpr h.1, h.2⟩
  · exact ip4_mod4 F C H W y b u.f u.c u.i u.j u.v h.1 h.2.1 h.2.2.1 h.2.2.2.1 h.2.2.2.2

theorem get4D_replicate4 (F C H W f c i j : ℕ) : L.get4D 0 (L.replicate4 F C H W (0 : ℝ)) f c i j = 0 := by
  rw [L.get4D_eq]
  unfold L.replicate4
  simp only [List.getD_eq_getElem?_getD]
  by_cases hf : f < F
  · simp only [List.getElem?_replicate, hf, if_true, Option.getD_some]
    exact get3D_replicate C H W c i j 0
  · rw [List.getElem?_replicate, if_neg hf, Option.getD_none, L.get3D_nil]

theorem inBounds4_replicate4 (F C H W : ℕ) {f c i j : ℕ} (hf : f < F) (hc : c < C) (hi : i < H) (hj : j < W) :
    InBounds4 (L.replicate4 F C H W (0 : ℝ)) f c i j := by
  unfold InBounds4 L.replicate4
  refine ⟨by simp [hf], ?_⟩
  simp only [List.getD_eq_getElem?_getD, List.getElem?_replicate, hf, if_true, Option.getD_some]
  exact inB_replicate 0 hc hi hj

theorem ip4_scatter_zeros (F C H W : ℕ) (b : V4 ℝ) (us : List Upd4)
    (hb : ∀ u ∈ us, u.f < F ∧ u.c < C ∧ u.i < H ∧ u.j < W) :
    ip4 F C H W (us.foldl (fun acc u => L.mod4 (· + u.v) acc u.f u.c u.i u.j) (L.replicate4 F C H W 0)) b =
      (us.map (fun u => u.v * L.get4D 0 b u.f u.c u.i u.j)).sum := by
  rw [ip4_scatter F C H W b us _ (fun u hu =>
    ⟨inBounds4_replicate4 F C H W (hb u hu).1 (hb u hu).2.1 (hb u hu).2.2.1 (hb u hu).2.2.2, hb u hu⟩)]
  unfold ip4
  simp [get4D_replicate4]

end Adjoint4
