import Proofs.Real
import Proofs.Basics

/-!
# Folds of the index update `L.mod3`, read point-wise

The loops `y[c][i][j] += v` (deconvolution forward, max-pool backward, the convolution's input gradient)
and `y[c][i][j] = v` (max-pool forward) are folds of `L.mod3` over a list of updates.  Position
`(c, i, j)` of the result holds the initial value plus the sum of the updates addressed to it
(`scatter_get`), respectively the value assigned to it (`assign_get`).
-/

namespace Scatter

theorem getD_modAt_length {β : Type} {f : List β → List β} (hf : ∀ x, (f x).length = x.length)
    (l : List (List β)) (i j : Nat) : ((L.modAt f l i).getD j []).length = (l.getD j []).length := by
  rw [L.getD_modAt]
  split
  · exact hf _
  · rfl

section generic
variable {β : Type}

def InB (y : List (List (List β))) (c i j : Nat) : Prop :=
  c < y.length ∧ i < (y.getD c []).length ∧ j < ((y.getD c []).getD i []).length

theorem get3D_mod3 {d : β} {g : β → β} (y : List (List (List β))) (c i j c' i' j' : Nat) (hb : InB y c i j) :
    L.get3D d (L.mod3 g y c i j) c' i' j' =
      if c = c' ∧ i = i' ∧ j = j' then g (L.get3D d y c' i' j') else L.get3D d y c' i' j' := by
  obtain ⟨hc, hi, hj⟩ := hb
  rw [L.get3D_eq, L.get3D_eq]
  unfold L.mod3
  rw [L.getD_modAt]
  by_cases h1 : c = c'
  · subst h1
    rw [if_pos ⟨rfl, hc⟩, L.getD_modAt]
    by_cases h2 : i = i'
    · subst h2
      rw [if_pos ⟨rfl, hi⟩, L.getD_modAt]
      by_cases h3 : j = j'
      · subst h3
        rw [if_pos ⟨rfl, hj⟩, if_pos ⟨rfl, rfl, rfl⟩]
      · rw [if_neg (fun h => h3 h.1), if_neg (fun h => h3 h.2.2)]
    · rw [if_neg (fun h => h2 h.1), if_neg (fun h => h2 h.2.1)]
  · rw [if_neg (fun h => h1 h.1), if_neg (fun h => h1 h.1)]

theorem inB_mod3 {g : β → β} {y : List (List (List β))} {c i j c' i' j' : Nat} :
    InB (L.mod3 g y c i j) c' i' j' ↔ InB y c' i' j' := by
  have hrow : ∀ r : List β, (L.modAt g r j).length = r.length := fun r => L.length_modAt g r j
  have hmat : ∀ m : List (List β), (L.modAt (fun r => L.modAt g r j) m i).length = m.length :=
    fun m => L.length_modAt _ m i
  have h2 : ((L.mod3 g y c i j).getD c' []).length = (y.getD c' []).length :=
    getD_modAt_length hmat y c c'
  have h3 : (((L.mod3 g y c i j).getD c' []).getD i' []).length = ((y.getD c' []).getD i' []).length := by
    unfold L.mod3
    rw [L.getD_modAt]
    split
    · exact getD_modAt_length hrow _ i i'
    · rfl
  unfold InB
  rw [h2, h3]
  unfold L.mod3
  rw [L.length_modAt]

/-- the value assigned is a function `G` of the target cell, so the order of the assignments does not matter -/
theorem assign_get {γ : Type} (d : β) (pos : γ → Nat × Nat × Nat) (G : Nat × Nat × Nat → β) :
    ∀ (us : List γ) (y : List (List (List β))) (c i j : Nat),
    (∀ u ∈ us, InB y (pos u).1 (pos u).2.1 (pos u).2.2) →
    L.get3D d (us.foldl (fun acc u => L.mod3 (fun _ => G (pos u)) acc (pos u).1 (pos u).2.1 (pos u).2.2) y) c i j =
      if ∃ u ∈ us, pos u = (c, i, j) then G (c, i, j) else L.get3D d y c i j := by
  intro us
  induction us with
  | nil => intro y c i j _; simp
  | cons u rest ih =>
    intro y c i j hb
    rw [List.foldl_cons, ih _ c i j (fun u' hu' => inB_mod3.mpr (hb u' (List.mem_cons_of_mem _ hu'))),
      get3D_mod3 y _ _ _ c i j (hb u (List.mem_cons_self ..))]
    simp only [List.mem_cons, exists_eq_or_imp]
    have hp : ((pos u).1 = c ∧ (pos u).2.1 = i ∧ (pos u).2.2 = j) ↔ pos u = (c, i, j) := by
      simp only [Prod.ext_iff]
    -- a later assignment to the cell wins; otherwise this one, if it addresses the cell
    by_cases hr : ∃ u' ∈ rest, pos u' = (c, i, j)
    · rw [if_pos hr, if_pos (Or.inr hr)]
    · by_cases hu : pos u = (c, i, j)
      · rw [if_neg hr, if_pos (hp.mpr hu), if_pos (Or.inl hu), hu]
      · rw [if_neg hr, if_neg (mt hp.mp hu), if_neg (not_or.mpr ⟨hu, hr⟩)]

theorem inB_replicate {C H W c i j : Nat} (v : β) (hc : c < C) (hi : i < H) (hj : j < W) :
    InB (L.replicate3 C H W v) c i j := by
  unfold InB L.replicate3 L.replicate2
  simp [hc, hi, hj, List.getD_eq_getElem?_getD]

theorem get3D_replicate (C H W c i j : Nat) (v : β) : L.get3D v (L.replicate3 C H W v) c i j = v := by
  rw [L.get3D_eq]
  unfold L.replicate3 L.replicate2
  simp only [List.getD_eq_getElem?_getD]
  by_cases hc : c < C
  · by_cases hi : i < H
    · by_cases hj : j < W <;> simp [hc, hi, hj]
    · simp [hc, hi]
  · simp [hc]

end generic

theorem foldl_additive {T γ : Type} (q : T → ℝ) {step : T → γ → T} {w : γ → ℝ} (ok : T → γ → Prop)
    (hok : ∀ y u u', ok y u' → ok (step y u) u') (hq : ∀ y u, ok y u → q (step y u) = q y + w u)
    (us : List γ) : ∀ y : T, (∀ u ∈ us, ok y u) → q (us.foldl step y) = q y + (us.map w).sum := by
  induction us with
  | nil => intro y _; simp
  | cons u rest ih =>
    intro y hb
    rw [List.foldl_cons, ih _ (fun u' hu' => hok y u u' (hb u' (List.mem_cons_of_mem _ hu'))),
      hq y u (hb u (List.mem_cons_self ..)), List.map_cons, List.sum_cons, add_assoc]

/-- `InB` at `ℝ` -/
def InBounds (y : V3 ℝ) (c i j : Nat) : Prop :=
  c < y.length ∧ i < (y.getD c []).length ∧ j < ((y.getD c []).getD i []).length

structure Upd where
  c : Nat
  i : Nat
  j : Nat
  v : ℝ

/-- **the scatter lemma**: after any list of in-bounds additive updates, position `(c, i, j)` holds its
    initial value plus the sum of the values addressed to it -/
theorem scatter_get : ∀ (us : List Upd) (y : V3 ℝ) (c i j : Nat),
    (∀ u ∈ us, InBounds y u.c u.i u.j) →
    L.get3D 0 (us.foldl (fun acc u => L.mod3 (· + u.v) acc u.c u.i u.j) y) c i j =
      L.get3D 0 y c i j + (us.map (fun u => if u.c = c ∧ u.i = i ∧ u.j = j then u.v else 0)).sum := by
  intro us y c i j
  refine foldl_additive (fun y => L.get3D 0 y c i j) (fun y u => InBounds y u.c u.i u.j)
    (fun y u u' => ?_) (fun y u h => ?_) us y
  · exact inB_mod3.mpr
  · rw [get3D_mod3 y u.c u.i u.j c i j h]
    split <;> simp

end Scatter
