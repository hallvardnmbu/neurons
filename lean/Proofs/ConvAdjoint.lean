import Proofs.Adjoint
import Proofs.Folds
import Props.C02

/-!
# Convolution: the backward pass is the transpose of the forward map (both arguments)

Forward: `pre[f][m][n] = Σ_{c,h,w} [guard] K[f][c][h][w] · X̃[c][m·s₀+h·d₀][n·s₁+w·d₁]` on the padded input
(`C02.convolveAt_spec`).  Backward (`Conv.paddedInputGrad`, `Conv.kernelGrad`) walks `f, c, h, w` and the
guarded taps `(m, n)`.  Both adjoint identities reduce to re-ordering one six-fold finite sum.
-/

open Finset

namespace ConvAdjoint
open Scatter Adjoint

theorem taps_sum (l : Conv ℝ) (oh ow h w ph pw : ℕ) (g : ℕ × ℕ × ℕ × ℕ → ℝ) :
    ((Conv.taps l oh ow h w ph pw).map g).sum =
      ∑ m ∈ range oh, ∑ n ∈ range ow,
        (if m * l.stride.1 + h * l.dilation.1 < ph ∧ n * l.stride.2 + w * l.dilation.2 < pw
         then g (m, n, m * l.stride.1 + h * l.dilation.1, n * l.stride.2 + w * l.dilation.2) else 0) := by
  unfold Conv.taps
  rw [Folds.sum_flatMap_range]
  apply sum_congr rfl; intro m _
  rw [Folds.sum_map_filterMap, Folds.sum_map_range]
  apply sum_congr rfl; intro n _
  simp only []
  by_cases hg : m * l.stride.1 + h * l.dilation.1 < ph ∧ n * l.stride.2 + w * l.dilation.2 < pw
  · simp only [hg, and_self, if_true]
  · simp only [hg, if_false]

theorem conv_sum_rotate (l : Conv ℝ) (x k : V3 ℝ) (D : ℕ → ℕ → ℝ) (kc kh kw oh ow ph pw : ℕ) :
    (∑ m ∈ range oh, ∑ n ∈ range ow, D m n * Conv.convolveAt l x k kc kh kw ph pw m n) =
      ∑ c ∈ range kc, ∑ h ∈ range kh, ∑ w ∈ range kw, ∑ m ∈ range oh, ∑ n ∈ range ow,
        D m n * (if m * l.stride.1 + h * l.dilation.1 < ph ∧ n * l.stride.2 + w * l.dilation.2 < pw
          then L.get3D 0 k c h w * L.get3D 0 x c (m * l.stride.1 + h * l.dilation.1) (n * l.stride.2 + w * l.dilation.2)
          else 0) := by
  refine Eq.trans (sum_congr rfl fun m _ => sum_congr rfl fun n _ => ?_) (Folds.sum_rotate oh ow kc kh kw _)
  simp only [C02.convolveAt_spec, mul_sum]

/-- the updates of `Conv.paddedInputGrad`, in loop order -/
noncomputable def pgUpdates (l : Conv ℝ) (ks : List (V3 ℝ)) (delta : V3 ℝ) (kf kc kh kw oh ow ph pw : ℕ) : List Upd :=
  (List.range kf).flatMap (fun f => (List.range kc).flatMap (fun c =>
    (List.range kh).flatMap (fun h => (List.range kw).flatMap (fun w =>
      (Conv.taps l oh ow h w ph pw).map (fun t =>
        ⟨c, t.2.2.1, t.2.2.2, L.get4D 0 ks f c h w * L.get3D 0 delta f t.1 t.2.1⟩)))))

theorem paddedInputGrad_as_updates (l : Conv ℝ) (ks : List (V3 ℝ)) (delta : V3 ℝ) (kf kc kh kw oh ow ph pw : ℕ) :
    Conv.paddedInputGrad l ks delta kf kc kh kw oh ow ph pw =
      (pgUpdates l ks delta kf kc kh kw oh ow ph pw).foldl (fun acc u => L.mod3 (· + u.v) acc u.c u.i u.j)
        (L.replicate3 kc ph pw 0) := by
  unfold Conv.paddedInputGrad pgUpdates
  simp only [List.foldl_flatMap, List.foldl_map]

theorem mem_taps (l : Conv ℝ) (oh ow h w ph pw : ℕ) (t : ℕ × ℕ × ℕ × ℕ) (ht : t ∈ Conv.taps l oh ow h w ph pw) :
    t.1 < oh ∧ t.2.1 < ow ∧ t.2.2.1 < ph ∧ t.2.2.2 < pw := by
  unfold Conv.taps at ht
  simp only [List.mem_flatMap, List.mem_range, List.mem_filterMap] at ht
  obtain ⟨m, hm, n, hn, h⟩ := ht
  split at h
  · rename_i hg
    simp only [Option.some.injEq] at h
    subst h
    exact ⟨hm, hn, hg.1, hg.2⟩
  · cases h

/-- **adjoint identity for the convolution's (padded) input**: for every upstream `δ` and every padded
    direction `vp`, `⟨δ, conv(vp)⟩ = ⟨padded input gradient(δ), vp⟩` — every stride, dilation, kernel -/
theorem padded_input_adjoint (l : Conv ℝ) (ks : List (V3 ℝ)) (delta vp : V3 ℝ) (kf kc kh kw oh ow ph pw : ℕ) :
    (∑ f ∈ range kf, ∑ m ∈ range oh, ∑ n ∈ range ow,
        L.get3D 0 delta f m n * Conv.convolveAt l vp (ks.getD f []) kc kh kw ph pw m n) =
      ip3 kc ph pw (Conv.paddedInputGrad l ks delta kf kc kh kw oh ow ph pw) vp := by
  rw [paddedInputGrad_as_updates, ip3_scatter_zeros]
  · -- right-hand side as nested finite sums
    unfold pgUpdates
    rw [Folds.sum_flatMap_range]
    apply sum_congr rfl; intro f _
    rw [Folds.sum_flatMap_range]
    -- left: push δ inside and rotate (m, n) past (c, h, w)
    rw [conv_sum_rotate]
    apply sum_congr rfl; intro c _
    rw [Folds.sum_flatMap_range]
    apply sum_congr rfl; intro h _
    rw [Folds.sum_flatMap_range]
    apply sum_congr rfl; intro w _
    rw [List.map_map, taps_sum]
    apply sum_congr rfl; intro m _
    apply sum_congr rfl; intro n _
    simp only [Function.comp, L.get4D_eq]
    split <;> ring
  · intro u hu
    unfold pgUpdates at hu
    simp only [List.mem_flatMap, List.mem_range, List.mem_map] at hu
    obtain ⟨f, _, c, hc, h, _, w, _, t, ht, rfl⟩ := hu
    have := mem_taps l oh ow h w ph pw t ht
    exact ⟨hc, this.2.2.1, this.2.2.2⟩

theorem kernelGrad_get (l : Conv ℝ) (xp delta : V3 ℝ) (kf kc kh kw oh ow ph pw f c h w : ℕ)
    (hf : f < kf) (hc : c < kc) (hh : h < kh) (hw : w < kw) :
    L.get4D 0 (Conv.kernelGrad l xp delta kf kc kh kw oh ow ph pw) f c h w =
      ((Conv.taps l oh ow h w ph pw).map
        (fun t => L.get3D 0 xp c t.2.2.1 t.2.2.2 * L.get3D 0 delta f t.1 t.2.1)).sum := by
  simp only [Conv.kernelGrad, L.get4D_eq, L.get3D_eq, List.getD_eq_getElem?_getD, L.getD_map_range, hf, hc, hh, hw,
    if_true, Folds.list_fold_sum, zero_add]

/-- **adjoint identity for the convolution's kernels**: for every upstream `δ` and every kernel
    direction `dK`, `⟨δ, conv_{dK}(xp)⟩ = ⟨kernel gradient(δ), dK⟩` — every stride, dilation, size -/
theorem kernel_adjoint (l : Conv ℝ) (dK : List (V3 ℝ)) (delta xp : V3 ℝ) (kf kc kh kw oh ow ph pw : ℕ) :
    (∑ f ∈ range kf, ∑ m ∈ range oh, ∑ n ∈ range ow,
        L.get3D 0 delta f m n * Conv.convolveAt l xp (dK.getD f []) kc kh kw ph pw m n) =
      ∑ f ∈ range kf, ∑ c ∈ range kc, ∑ h ∈ range kh, ∑ w ∈ range kw,
        L.get4D 0 (Conv.kernelGrad l xp delta kf kc kh kw oh ow ph pw) f c h w * L.get4D 0 dK f c h w := by
  apply sum_congr rfl; intro f hf
  rw [conv_sum_rotate]
  apply sum_congr rfl; intro c hc
  apply sum_congr rfl; intro h hh
  apply sum_congr rfl; intro w hw
  rw [kernelGrad_get l xp delta kf kc kh kw oh ow ph pw f c h w (mem_range.mp hf) (mem_range.mp hc)
    (mem_range.mp hh) (mem_range.mp hw), taps_sum, sum_mul]
  apply sum_congr rfl; intro m _
  rw [sum_mul]
  apply sum_congr rfl; intro n _
  simp only [L.get4D_eq]
  split <;> ring

theorem crop_get (l : Conv ℝ) (pg : V3 ℝ) (ih iw c i j : ℕ) (hi : i < ih) (hj : j < iw) :
    L.get3D 0 (Conv.crop l pg ih iw) c i j = L.get3D 0 pg c (l.padding.1 + i) (l.padding.2 + j) := by
  rw [L.get3D_eq, L.get3D_eq]
  unfold Conv.crop
  have h1 : (pg.map (fun ch => ((ch.drop l.padding.1).take ih).map (fun row => (row.drop l.padding.2).take iw))).getD c [] =
      (((pg.getD c []).drop l.padding.1).take ih).map (fun row => (row.drop l.padding.2).take iw) := by
    simp only [List.getD_eq_getElem?_getD, List.getElem?_map]
    cases pg[c]? <;> simp
  rw [h1]
  have h2 : ((((pg.getD c []).drop l.padding.1).take ih).map (fun row => (row.drop l.padding.2).take iw)).getD i [] =
      List.take iw (List.drop l.padding.2 ((((pg.getD c []).drop l.padding.1).take ih).getD i [])) := by
    simp only [List.getD_eq_getElem?_getD, List.getElem?_map]
    cases (List.take ih (List.drop l.padding.1 (pg[c]?.getD [])))[i]? <;> simp
  rw [h2, L.getD_take_drop hj, L.getD_take_drop hi]

/-- **`⟨padded gradient, pad(v)⟩ = ⟨crop(padded gradient), v⟩`** whenever the padded tensor holds `v`
    shifted by the padding and zero elsewhere (which `C02.pad3d_get` proves of `pad3d`) -/
theorem pad_crop_adjoint (l : Conv ℝ) (pg v vp : V3 ℝ) (kc ih iw : ℕ)
    (hvp : ∀ ch i j, L.get3D 0 vp ch i j =
      if l.padding.1 ≤ i ∧ i < l.padding.1 + ih ∧ l.padding.2 ≤ j ∧ j < l.padding.2 + iw
      then L.get3D 0 v ch (i - l.padding.1) (j - l.padding.2) else 0) :
    ip3 kc (ih + 2 * l.padding.1) (iw + 2 * l.padding.2) pg vp = ip3 kc ih iw (Conv.crop l pg ih iw) v := by
  unfold ip3
  refine sum_congr rfl fun c _ => ?_
  simp only [hvp, mul_ite, mul_zero]
  rw [Folds.sum_window2 l.padding.1 l.padding.2 ih iw
    fun y x => L.get3D 0 pg c y x * L.get3D 0 v c (y - l.padding.1) (x - l.padding.2)]
  refine sum_congr rfl fun i hi => sum_congr rfl fun j hj => ?_
  rw [crop_get l pg ih iw c i j (mem_range.mp hi) (mem_range.mp hj), Nat.add_sub_cancel_left, Nat.add_sub_cancel_left]

end ConvAdjoint
