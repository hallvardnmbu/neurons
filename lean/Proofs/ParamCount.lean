import Model.Train
import Proofs.Reshape

/-! # Counting the scalars a spatial layer's kernels hold (for C10's parameter-count clause) -/

namespace ParamCount
variable {α : Type}

def v3count (v : V3 α) : Nat := (v.map (fun m => (m.map List.length).sum)).sum

/-- `L.Dims3` with the nest as last argument -/
def IsBox (c h w : Nat) (v : V3 α) : Prop :=
  v.length = c ∧ ∀ m ∈ v, m.length = h ∧ ∀ r ∈ m, r.length = w

theorem v3count_eq (v : V3 α) : v3count v = (L.flatten3 v).length := by
  simp only [v3count, L.flatten3, List.length_flatten, List.map_map, Function.comp_def]

theorem v3count_box (c h w : Nat) (v : V3 α) (hb : IsBox c h w v) : v3count v = c * (h * w) := by
  rw [v3count_eq, L.length_flatten3 hb, Nat.mul_assoc]

/-- what the kernel list of a spatial layer holds -/
def kernelScalars (ks : List (Tensor α)) : Nat :=
  (ks.map (fun k => match k.data with | .triple v => v3count v | _ => 0)).sum

theorem kernelScalars_box (c h w : Nat) (ks : List (Tensor α))
    (hk : ∀ k ∈ ks, ∃ v, k.data = .triple v ∧ IsBox c h w v) : kernelScalars ks = ks.length * (c * (h * w)) := by
  unfold kernelScalars
  apply L.sum_map_const
  intro k hmem
  obtain ⟨v, hv, hb⟩ := hk k hmem
  simp [hv, v3count_box c h w v hb]

/-- the extents the layers read off their first kernel (`kernels[0]`, `data[0][0]`) are those of the box -/
theorem first_kernel {ks : List (Tensor α)} (hne : ks ≠ []) {c h w : Nat} (hc : 0 < c) (hh : 0 < h)
    (hk : ∀ k ∈ ks, ∃ v, k.data = .triple v ∧ IsBox c h w v) :
    ∃ k rest r m cs, ks = k :: rest ∧ k.data = .triple ((r :: m) :: cs) ∧
      ((r :: m) :: cs).length = c ∧ (r :: m).length = h ∧ r.length = w := by
  obtain ⟨k, rest, rfl⟩ := List.exists_cons_of_ne_nil hne
  obtain ⟨v, hv, hb⟩ := hk k (List.mem_cons_self ..)
  obtain ⟨r, m, cs, rfl, h2, h3⟩ := L.dims3_cons hb hc hh
  exact ⟨k, rest, r, m, cs, rfl, hv, hb.1, h2, h3⟩

end ParamCount
