import Model.Train
import Proofs.Basics

/-!
# A network whose dropout flags are all off computes exactly what the same network built without
dropout computes (helper lemmas for C09): through `Feedback.forwardAll`, `runRange`, the loop block and
the position-indexed fold of `Network.forward`.
-/

namespace NoDropout
open Network Scalar

variable {α : Type} [Scalar α]

def inner : InnerLayer α → InnerLayer α
  | .dense l => .dense { l with dropout := none }
  | .conv l => .conv { l with dropout := none }
  | .deconv l => .deconv { l with dropout := none }
  | .maxpool l => .maxpool l

def block (f : Feedback α) : Feedback α := { f with layers := f.layers.map inner }

def layer : Layer α → Layer α
  | .dense l => .dense { l with dropout := none }
  | .conv l => .conv { l with dropout := none }
  | .deconv l => .deconv { l with dropout := none }
  | .maxpool l => .maxpool l
  | .feedback f => .feedback (block f)

/-- **the network built without dropout**: the same layers, connections and settings, no dropout
    configured anywhere (inside feedback blocks too) -/
def network (n : Network α) : Network α := { n with layers := n.layers.map layer }

/-- with its flag off a layer never looks at its dropout rate (`finish`) -/
theorem dense_forward (d : DenseLayer α) (h : d.training = false) (x : Tensor α) :
    DenseLayer.forward { d with dropout := none } x = d.forward x := by
  cases d; cases h; rfl

theorem conv_forward (d : Conv α) (h : d.training = false) (x : Tensor α) :
    Conv.forward { d with dropout := none } x = d.forward x := by
  cases d; cases h; rfl

theorem deconv_forward (d : Deconv α) (h : d.training = false) (x : Tensor α) :
    Deconv.forward { d with dropout := none } x = d.forward x := by
  cases d; cases h; rfl

omit [Scalar α] in
theorem inner_inputs (l : InnerLayer α) : (inner l).inputs = l.inputs := by cases l <;> rfl

theorem inner_forward (l : InnerLayer α) (h : ∀ f ∈ l.flag?, f = false) (x : Tensor α) :
    (inner l).forward x = l.forward x := by
  cases l with
  | dense d => simp only [inner, InnerLayer.forward, dense_forward d (h _ rfl)]
  | conv d => simp only [inner, InnerLayer.forward, conv_forward d (h _ rfl)]
  | deconv d => simp only [inner, InnerLayer.forward, deconv_forward d (h _ rfl)]
  | maxpool d => rfl

theorem block_forwardStep (f : Feedback α) (l : InnerLayer α) (h : ∀ fl ∈ l.flag?, fl = false) (i : Nat)
    (st : Except Err (List (Tensor α) × List (Tensor α) × List (Option MaxIdx))) :
    Feedback.forwardStep (block f) st (i, inner l) = Feedback.forwardStep f st (i, l) := by
  unfold Feedback.forwardStep
  simp only [inner_inputs, inner_forward l h]
  rfl

theorem block_forwardAll (f : Feedback α) (h : ∀ fl ∈ f.layers.filterMap InnerLayer.flag?, fl = false)
    (x : Tensor α) : (block f).forwardAll x = f.forwardAll x := by
  unfold Feedback.forwardAll
  rw [show (block f).layers = f.layers.map inner from rfl, List.length_map,
    L.foldl_zip_map_congr (Feedback.forwardStep f) (Feedback.forwardStep (block f)) inner f.layers
      (fun l hl => block_forwardStep f l (fun fl hfl => h fl (List.mem_filterMap.mpr ⟨l, hl, hfl⟩)))]
  rfl

omit [Scalar α] in
theorem layer_inputs (l : Layer α) : (layer l).inputs = l.inputs := by cases l <;> rfl

/-- **a layer whose flags are off computes what the same layer without dropout computes** -/
theorem layer_forward (l : Layer α) (h : ∀ f ∈ l.flags, f = false) (x : Tensor α) :
    layerForward (layer l) x = layerForward l x := by
  cases l with
  | dense d => simp only [layer, layerForward, dense_forward d (h _ (List.mem_singleton_self _))]
  | conv d => simp only [layer, layerForward, conv_forward d (h _ (List.mem_singleton_self _))]
  | deconv d => simp only [layer, layerForward, deconv_forward d (h _ (List.mem_singleton_self _))]
  | maxpool d => rfl
  | feedback f => simp only [layer, layerForward, Feedback.forward, block_forwardAll f h]

def FlagsOff (ls : List (Layer α)) : Prop := ∀ l ∈ ls, ∀ f ∈ l.flags, f = false

omit [Scalar α] in
theorem FlagsOff.sub {ls : List (Layer α)} (h : FlagsOff ls) (a b : Nat) : FlagsOff ((ls.drop a).take b) :=
  fun l hl => h l (List.mem_of_mem_drop (List.mem_of_mem_take hl))

theorem runRange_map (ls : List (Layer α)) (h : FlagsOff ls) (x : Tensor α) :
    runRange (ls.map layer) x = runRange ls x := by
  unfold runRange
  rw [List.foldl_map, L.foldl_congr_mem (g := rangeStep) (fun l hl s => by
    unfold rangeStep
    cases s with
    | error e => rfl
    | ok st => simp only [layer_forward l (h l hl)])]

theorem loopStep_map (ls : List (Layer α)) (h : FlagsOff ls) (sh : Shape) (b : Bool) (a : Tensor α) :
    loopStep (ls.map layer) sh b a = loopStep ls sh b a := by
  funext c
  unfold loopStep
  simp only [runRange_map ls h]

theorem applyLoopback_eq (n : Network α) (h : FlagsOff n.layers) (i into it : Nat) (b : Bool) (t : Trace α) :
    applyLoopback (network n) i into it b t = applyLoopback n i into it b t := by
  unfold applyLoopback
  simp only [network, L.get_map, ← List.map_drop, ← List.map_take]
  -- the four lookups in the order the match reads them: a failed one then reduces both sides at once
  cases t.act.getLast? with
  | none => rfl
  | some last =>
    cases L.get n.layers into with
    | error e => rfl
    | ok lin =>
      cases L.get n.layers i with
      | error e => rfl
      | ok li =>
        cases L.get t.act into with
        | error e => rfl
        | ok actInto =>
          simp only [layer_inputs, loopStep_map _ (h.sub into _)]
          rfl

theorem forwardLayer_eq (n : Network α) (h : FlagsOff n.layers) (l : Layer α) (hl : ∀ f ∈ l.flags, f = false)
    (i : Nat) (st : Except Err (Trace α)) :
    forwardLayer (network n) st (i, layer l) = forwardLayer n st (i, l) := by
  cases st with
  | error e => rfl
  | ok t =>
    simp only [forwardLayer, layer_forward l hl, applyLoopback_eq n h]
    -- what is left of `network n` are its connections and loop table, which are those of `n`
    rfl

/-- **with every dropout flag off, `Network::forward` of the network and of the same network built
    without dropout record exactly the same trace** — for every layer list (feedback blocks included),
    skip and loop connections, and every input -/
theorem forward_eq (n : Network α) (h : FlagsOff n.layers) (x : Tensor α) :
    (network n).forward x = n.forward x := by
  unfold Network.forward
  have hl : (network n).layers = n.layers.map layer := rfl
  rw [hl, List.length_map]
  exact L.foldl_zip_map_congr (forwardLayer n) (forwardLayer (network n)) layer n.layers
    (fun l hl i s => forwardLayer_eq n h l (h l hl) i s)

theorem predict_eq (n : Network α) (h : FlagsOff n.layers) (x : Tensor α) :
    (network n).predict x = n.predict x := by
  unfold Network.predict
  rw [forward_eq n h]

section
omit [Scalar α]

theorem layer_flags_set (t : Bool) (l : Layer α) : ∀ f ∈ (Layer.setTraining t l).flags, f = t := by
  intro f hf
  cases l with
  | maxpool d => cases hf
  | feedback fb =>
    simp only [Layer.setTraining, Layer.flags, Feedback.setTraining, List.mem_filterMap, List.mem_map] at hf
    obtain ⟨l', ⟨l, _, hl⟩, hf⟩ := hf
    subst hl
    cases l <;> simp [InnerLayer.setTraining, InnerLayer.flag?] at hf <;> exact hf.symm
  | _ => exact List.mem_singleton.mp hf

theorem setAllTraining_flags (n : Network α) (t : Bool) : ∀ f ∈ (n.setAllTraining t).flags, f = t := by
  intro f hf
  simp only [Network.flags, Network.setAllTraining, List.mem_flatMap, List.mem_map] at hf
  obtain ⟨l', ⟨l, _, hl⟩, hf⟩ := hf
  subst hl
  exact layer_flags_set t l f hf

theorem flagsOff_of_flags (n : Network α) (h : ∀ f ∈ n.flags, f = false) : FlagsOff n.layers :=
  fun l hl f hf => h f (by simp only [Network.flags, List.mem_flatMap]; exact ⟨l, hl, hf⟩)

theorem inner_setTraining (t : Bool) (l : InnerLayer α) :
    InnerLayer.setTraining t (inner l) = inner (InnerLayer.setTraining t l) := by cases l <;> rfl

theorem layer_setTraining (t : Bool) (l : Layer α) :
    Layer.setTraining t (layer l) = layer (Layer.setTraining t l) := by
  cases l with
  | feedback f =>
    simp only [layer, Layer.setTraining, block, Feedback.setTraining, List.map_map]
    congr 2
    exact List.map_congr_left (fun x _ => inner_setTraining t x)
  | _ => rfl

theorem network_setAllTraining (n : Network α) (t : Bool) :
    (network n).setAllTraining t = network (n.setAllTraining t) := by
  simp only [network, Network.setAllTraining, List.map_map]
  congr 1
  exact List.map_congr_left (fun l _ => layer_setTraining t l)

end

theorem score_eq (n : Network α) (p t : Tensor α) (tol : α) : (network n).score p t tol = n.score p t tol := by
  unfold Network.score
  have : (network n).layers.getLast? = n.layers.getLast?.map layer := by
    simp [network, List.getLast?_map]
  rw [this]
  cases n.layers.getLast? with
  | none => rfl
  | some l => cases l <;> rfl

/-- forget the network `validate` hands back -/
def metrics (r : Except Err (Network α × α × α)) : Except Err (α × α) :=
  match r with
  | .error e => .error e
  | .ok (_, l, a) => .ok (l, a)

omit [Scalar α] in
theorem metrics_eq_map (r : Except Err (Network α × α × α)) : metrics r = r.map (fun r => (r.2.1, r.2.2)) := by
  cases r <;> rfl

/-- no hypothesis on the flags: `validate` clears them itself -/
theorem validate_eq (n : Network α) (xs ts : List (Tensor α)) (tol : α) :
    metrics ((network n).validate xs ts tol) = metrics (n.validate xs ts tol) := by
  unfold Network.validate
  simp only [network_setAllTraining]
  have hq : FlagsOff (n.setAllTraining false).layers :=
    flagsOff_of_flags _ (setAllTraining_flags n false)
  have hp : (network (n.setAllTraining false)).predict = (n.setAllTraining false).predict := by
    funext x; exact predict_eq _ hq x
  have hs : (network (n.setAllTraining false)).score = (n.setAllTraining false).score := by
    funext a b c; exact score_eq _ a b c
  have ho : (network (n.setAllTraining false)).objective = (n.setAllTraining false).objective := rfl
  have hc : (network (n.setAllTraining false)).clamp = (n.setAllTraining false).clamp := rfl
  rw [hp, hs, ho, hc]
  cases L.mapM' _ (xs.zip ts) <;> rfl

end NoDropout
