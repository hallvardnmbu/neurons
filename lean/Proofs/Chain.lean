import Proofs.VJP
import Proofs.Walk
import Proofs.Real

/-!
# Any sequence of model layers that realise vector functions: the model's forward fold is the
composition and its reverse walk is the reverse-mode composition

A `Chain` is a list of links.  A link is a `Chain.cons` cell: a model layer `l` with the vector function `f` it
realises between two tensor encodings `ea`, `eb` (`vecT` for flat vectors, `T3` for `c × h × w` tensors, …), its
backward function `bwd`, pre-activation `pre`, recording `rc` and parameter gradients `wg`.  `Real` asks of every
link, at the point `x` it is evaluated at, `layerForward l (ea x) = .ok (pre x, eb (f x), rc x)` and, for every `g`,
`layerBackward l (eb g) (ea x) (pre x) (.ok (rc x)) = .ok (ea (bwd x g), (wg x g).1, (wg x g).2)`.  The `*_is_link`
theorems of Props/C01.lean prove this pair together with `IsVJP f x (bwd x)`; `SkipNet.Link.Real`,
`SkipTyped.TLink.Real`, `SkipTypedE.RealAt`, `ChainBlock.InnerReal` and the conclusions of `ChainLinks.real_*` write
the same pair out.  `Network.forward` / `Network.backward` of a network consisting of the layers of a real chain (no
skip / loop connections) compute `GNet.fwd` / `GNet.bwd` of the corresponding heterogeneous stack — whatever the
layer kinds.  At the end `SkipWalk.EncAdd`, a property of an encoding alone that both skip theories ask for.
-/

namespace LayerChain
open Network Scalar VJP Walk LoopSpec

abbrev Enc (a : Idx) := V a.T → Tensor ℝ

inductive Chain : (a : Idx) → Enc a → (c : Idx) → Enc c → Type 1
  | nil (a : Idx) (ea : Enc a) : Chain a ea a ea
  | cons {a b c : Idx} {ea : Enc a} {eb : Enc b} {ec : Enc c} (l : Layer ℝ)
      (f : V a.T → V b.T) (bwd : V a.T → V b.T → V a.T)
      (pre : V a.T → Tensor ℝ) (rc : V a.T → Recorded ℝ) (wg : V a.T → V b.T → WGrad ℝ × BGrad ℝ)
      (rest : Chain b eb c ec) : Chain a ea c ec

variable {a c : Idx} {ea : Enc a} {ec : Enc c}

def layers : {a : Idx} → {ea : Enc a} → {c : Idx} → {ec : Enc c} → Chain a ea c ec → List (Layer ℝ)
  | _, _, _, _, .nil _ _ => []
  | _, _, _, _, .cons l _ _ _ _ _ rest => l :: layers rest

def gnet : {a : Idx} → {ea : Enc a} → {c : Idx} → {ec : Enc c} → Chain a ea c ec → GNet a c
  | _, _, _, _, .nil a _ => .nil a
  | _, _, _, _, .cons _ f bwd _ _ _ rest => .cons f bwd (gnet rest)

def Real : {a : Idx} → {ea : Enc a} → {c : Idx} → {ec : Enc c} → Chain a ea c ec → V a.T → Prop
  | _, _, _, _, .nil _ _, _ => True
  | _, ea, _, _, @Chain.cons _ _ _ _ eb _ l f bwd pre rc wg rest, x =>
    layerForward l (ea x) = .ok (pre x, eb (f x), rc x) ∧
    (∀ g, layerBackward l (eb g) (ea x) (pre x) (.ok (rc x)) = .ok (ea (bwd x g), (wg x g).1, (wg x g).2)) ∧
    Real rest (f x)

theorem Real.cons {a b c : Idx} {ea : Enc a} {eb : Enc b} {ec : Enc c} {l : Layer ℝ} {f : V a.T → V b.T}
    {bwd : V a.T → V b.T → V a.T} {pre : V a.T → Tensor ℝ} {rc : V a.T → Recorded ℝ} {wg : V a.T → V b.T → WGrad ℝ × BGrad ℝ}
    {rest : Chain b eb c ec} {x : V a.T}
    (h : layerForward l (ea x) = .ok (pre x, eb (f x), rc x) ∧
      ∀ g, layerBackward l (eb g) (ea x) (pre x) (.ok (rc x)) = .ok (ea (bwd x g), (wg x g).1, (wg x g).2))
    (hr : Real rest (f x)) : Real (.cons (ea := ea) l f bwd pre rc wg rest) x :=
  ⟨h.1, h.2, hr⟩

def pres : {a : Idx} → {ea : Enc a} → {c : Idx} → {ec : Enc c} → Chain a ea c ec → V a.T → List (Tensor ℝ)
  | _, _, _, _, .nil _ _, _ => []
  | _, _, _, _, .cons _ f _ pre _ _ rest, x => pre x :: pres rest (f x)

def acts : {a : Idx} → {ea : Enc a} → {c : Idx} → {ec : Enc c} → Chain a ea c ec → V a.T → List (Tensor ℝ)
  | _, _, _, _, .nil _ _, _ => []
  | _, _, _, _, @Chain.cons _ _ _ _ eb _ _ f _ _ _ _ rest, x => eb (f x) :: acts rest (f x)

def recs : {a : Idx} → {ea : Enc a} → {c : Idx} → {ec : Enc c} → Chain a ea c ec → V a.T → List (Recorded ℝ)
  | _, _, _, _, .nil _ _, _ => []
  | _, _, _, _, .cons _ f _ _ rc _ rest, x => rc x :: recs rest (f x)

theorem lengths : ∀ {a : Idx} {ea : Enc a} {c : Idx} {ec : Enc c} (ch : Chain a ea c ec) (x : V a.T),
    (pres ch x).length = (layers ch).length ∧ (acts ch x).length = (layers ch).length ∧
    (recs ch x).length = (layers ch).length := by
  intro a ea c ec ch
  induction ch with
  | nil => exact fun _ => ⟨rfl, rfl, rfl⟩
  | cons l f bwd pre rc wg rest ih =>
    intro x
    obtain ⟨h1, h2, h3⟩ := ih (f x)
    simp [pres, acts, recs, layers, h1, h2, h3]

theorem forward_fold (ch : Chain a ea c ec) (x : V a.T) (h : Real ch x) (p q : List (Tensor ℝ)) (r : List (Recorded ℝ)) :
    (layers ch).foldl rangeStep (.ok (p, q, r, ea x)) =
      .ok (p ++ pres ch x, q ++ acts ch x, r ++ recs ch x, ec ((gnet ch).fwd x)) := by
  induction ch generalizing p q r with
  | nil => simp [layers, pres, acts, recs, gnet, GNet.fwd]
  | cons l f bwd pre rc wg rest ih =>
    simp only [layers, List.foldl_cons, rangeStep, h.1]
    rw [ih (f x) h.2.2]
    simp [pres, acts, recs, gnet, GNet.fwd]

theorem acts_last (ch : Chain a ea c ec) (x : V a.T) :
    (ea x :: acts ch x).getLast? = some (ec ((gnet ch).fwd x)) := by
  induction ch with
  | nil => rfl
  | cons l f bwd pre rc wg rest ih =>
    simp only [acts, gnet, GNet.fwd]
    rw [List.getLast?_cons_cons]
    exact ih (f x)

theorem acts_getLast (ch : Chain a ea c ec) (x : V a.T) (A : List (Tensor ℝ)) (hA : A.getLast? = some (ea x)) :
    (A ++ acts ch x).getLast? = some (ec ((gnet ch).fwd x)) :=
  L.getLast?_append_of_cons hA (acts_last ch x)

theorem forward_chain (n : Network ℝ) (hl : n.loopbacks = []) (ch : Chain a ea c ec) (x : V a.T) (hr : Real ch x)
    (k : ℕ) (t : Trace ℝ) (hx : t.act.getLast? = some (ea x)) (hlen : t.act.length = k + 1)
    (hfree : ∀ i, k ≤ i → i < k + (layers ch).length → Assoc.find? n.connect i = none) :
    (List.zip (List.range' k (layers ch).length) (layers ch)).foldl (forwardLayer n) (.ok t) =
      .ok { pre := t.pre ++ pres ch x, act := t.act ++ acts ch x, recs := t.recs ++ recs ch x } := by
  rw [forward_free n hl (layers ch) k t (ea x) hx hlen hfree, forward_fold ch x hr]

/-- the encoded input gradients the reverse walk produces, in walk order (last layer first): the last entry is the
    gradient with respect to the chain's input (`handed_last`) -/
def handed : {a : Idx} → {ea : Enc a} → {c : Idx} → {ec : Enc c} → Chain a ea c ec → V a.T → V c.T → List (Tensor ℝ)
  | _, _, _, _, .nil _ _, _, _ => []
  | _, ea, _, _, .cons _ f bwd _ _ _ rest, x, g => handed rest (f x) g ++ [ea (bwd x ((gnet rest).bwd (f x) g))]

/-- the walk records the weight / bias gradient of the chain's first layer last -/
def FirstGrads : {a : Idx} → {ea : Enc a} → {c : Idx} → {ec : Enc c} → Chain a ea c ec → V a.T → V c.T →
    List (WGrad ℝ) → List (BGrad ℝ) → Prop
  | _, _, _, _, .nil _ _, _, _, _, _ => True
  | _, _, _, _, .cons _ f _ _ _ wg rest, x, g, ws, bs =>
    ws.getLast? = some (wg x ((gnet rest).bwd (f x) g)).1 ∧ bs.getLast? = some (wg x ((gnet rest).bwd (f x) g)).2

/-- every weight / bias gradient the walk records, in walk order (last layer first) -/
def allGrads : {a : Idx} → {ea : Enc a} → {c : Idx} → {ec : Enc c} → Chain a ea c ec → V a.T → V c.T → List (WGrad ℝ × BGrad ℝ)
  | _, _, _, _, .nil _ _, _, _ => []
  | _, _, _, _, .cons _ f _ _ _ wg rest, x, g => allGrads rest (f x) g ++ [wg x ((gnet rest).bwd (f x) g)]

theorem handed_last (ch : Chain a ea c ec) (x : V a.T) (g : V c.T) :
    (handed ch x g).getLast?.getD (ec g) = ea ((gnet ch).bwd x g) := by
  cases ch <;> simp [handed, gnet, GNet.bwd]

theorem handed_length (ch : Chain a ea c ec) (x : V a.T) (g : V c.T) :
    (handed ch x g).length = (layers ch).length := by
  induction ch with
  | nil => rfl
  | cons l f bwd pre rc wg rest ih => simp [handed, layers, ih]

theorem allGrads_length (ch : Chain a ea c ec) (x : V a.T) (g : V c.T) : (allGrads ch x g).length = (layers ch).length := by
  induction ch with
  | nil => rfl
  | cons l f bwd pre rc wg rest ih => simp [allGrads, layers, ih]

theorem handed_getLast (ch : Chain a ea c ec) (x : V a.T) (g : V c.T) (grads : List (Tensor ℝ))
    (hg : grads.getLast? = some (ec g)) : (grads ++ handed ch x g).getLast? = some (ea ((gnet ch).bwd x g)) :=
  L.getLast?_append_of_cons hg (by rw [List.getLast?_cons, handed_last])

theorem firstGrads_allGrads (ch : Chain a ea c ec) (x : V a.T) (g : V c.T) :
    FirstGrads ch x g ((allGrads ch x g).map (·.1)) ((allGrads ch x g).map (·.2)) := by
  cases ch <;> simp [FirstGrads, allGrads]

/-- the backward half of `Real`, with whatever the trace holds at the layer's position (`k` onwards) as its
    recording — possibly nothing: a feedback block walks its inner layers with `recs := []`
    (`ChainBlock.backward_chain`) -/
def BackReal (t : Trace ℝ) : {a : Idx} → {ea : Enc a} → {c : Idx} → {ec : Enc c} → Chain a ea c ec → V a.T → ℕ → Prop
  | _, _, _, _, .nil _ _, _, _ => True
  | _, ea, _, _, @Chain.cons _ _ _ _ eb _ l f bwd pre _ wg rest, x, k =>
    (∀ g, layerBackward l (eb g) (ea x) (pre x) (L.get t.recs k) = .ok (ea (bwd x g), (wg x g).1, (wg x g).2)) ∧
    BackReal t rest (f x) (k + 1)

theorem BackReal.of_sits (t : Trace ℝ) (ch : Chain a ea c ec) (x : V a.T) (k : ℕ)
    (h : Real ch x) (hrec : Sits k (recs ch x) t.recs) : BackReal t ch x k := by
  induction ch generalizing k with
  | nil => trivial
  | cons l f bwd pre rc wg rest ih =>
    exact ⟨fun g => by rw [hrec.head]; exact h.2.1 g, ih (f x) (k + 1) h.2.2 hrec.tail⟩

theorem back_walk (ch : Chain a ea c ec) (x : V a.T) (g : V c.T) (k : ℕ) (t : Trace ℝ)
    (h : BackReal t ch x k) (hact : Sits k (ea x :: acts ch x) t.act) (hpre : Sits k (pres ch x) t.pre) :
    backSpec t (List.zip (List.range' k (layers ch).length) (layers ch)).reverse (ec g) =
      .ok ((allGrads ch x g).map (·.1), (allGrads ch x g).map (·.2), handed ch x g) := by
  induction ch generalizing k with
  | nil => rfl
  | @cons _ _ _ ea eb _ l f bwd pre rc wg rest ih =>
    -- the layers after the first one (shifted by one position), then the first
    simp only [layers, List.length_cons, List.range'_succ, List.zip_cons_cons, List.reverse_cons]
    rw [backSpec_append, ih (f x) g (k + 1) h.2 hact.tail hpre.tail]
    simp only [handed_last, backSpec, hact.head, hpre.head, h.1, allGrads, handed, List.map_append, List.map_cons, List.map_nil]

structure Holds (T : Trace ℝ) (k : ℕ) (ch : Chain a ea c ec) (x : V a.T) : Prop where
  act : Sits (k + 1) (acts ch x) T.act
  pre : Sits k (pres ch x) T.pre
  recs : Sits k (recs ch x) T.recs

theorem Holds.tail {a b c : Idx} {ea : Enc a} {eb : Enc b} {ec : Enc c} {l : Layer ℝ} {f : V a.T → V b.T}
    {bwd : V a.T → V b.T → V a.T} {pre : V a.T → Tensor ℝ} {rc : V a.T → Recorded ℝ} {wg : V a.T → V b.T → WGrad ℝ × BGrad ℝ}
    {rest : Chain b eb c ec} {T : Trace ℝ} {k : ℕ} {x : V a.T}
    (h : Holds T k (.cons (ea := ea) l f bwd pre rc wg rest) x) : Holds T (k + 1) rest (f x) :=
  ⟨h.act.tail, h.pre.tail, h.recs.tail⟩

theorem back_chain (n : Network ℝ) (T : Trace ℝ) (inv : List (Nat × List Nat)) (ch : Chain a ea c ec) (x : V a.T) (g : V c.T)
    (k : ℕ) (hr : Real ch x) (hT : Holds T k ch x) (hin : L.get T.act k = .ok (ea x))
    (hfree : ∀ i, k ≤ i → i < k + (layers ch).length → Assoc.find? n.connect i = none ∧ Assoc.find? inv i = none)
    (grads processed : List (Tensor ℝ)) (hg : grads.getLast? = some (ec g)) (wgs : List (WGrad ℝ)) (bgs : List (BGrad ℝ)) :
    (List.zip (List.range' k (layers ch).length) (layers ch)).reverse.foldl (backwardStep n T inv)
        (.ok (wgs, bgs, grads, processed)) =
      .ok (wgs ++ (allGrads ch x g).map (·.1), bgs ++ (allGrads ch x g).map (·.2), grads ++ handed ch x g,
        processed ++ handed ch x g) := by
  rw [back_free n T inv _ wgs bgs grads processed (ec g) hg (fun il hil => by
      rw [List.mem_reverse] at hil
      have := List.mem_range'_1.mp (List.of_mem_zip hil).1
      exact hfree il.1 this.1 this.2),
    back_walk ch x g k T (BackReal.of_sits T ch x k hr hT.recs) (Sits.cons hin hT.act) hT.pre]

def trace (ch : Chain a ea c ec) (x : V a.T) : Trace ℝ :=
  { pre := pres ch x, act := ea x :: acts ch x, recs := recs ch x }

theorem network_forward (n : Network ℝ) (ch : Chain a ea c ec)
    (hn : n.layers = layers ch) (hc : n.connect = []) (hl : n.loopbacks = []) (x : V a.T) (hr : Real ch x) :
    n.forward (ea x) = .ok (trace ch x) := by
  rw [forward_eq_runRange n hc hl (ea x), Network.runRange, hn, forward_fold ch x hr]
  rfl

theorem network_backward (n : Network ℝ) (ch : Chain a ea c ec)
    (hn : n.layers = layers ch) (hc : n.connect = []) (x : V a.T) (g : V c.T) (t : Trace ℝ)
    (hb : BackReal t ch x 0) (hact : t.act = ea x :: acts ch x) (hpre : t.pre = pres ch x) :
    n.backward (ec g) t = .ok ((allGrads ch x g).map (·.1), (allGrads ch x g).map (·.2), ec g :: handed ch x g) := by
  rw [backward_eq_backSpec n hc (ec g), hn, List.range_eq_range',
    back_walk ch x g 0 t hb (hact ▸ sits_self _) (hpre ▸ sits_self _)]

/-- **end to end for any sequence of layers that realise vector functions** (no skip / loop connections),
    on the model's own `Network.forward` / `Network.backward` folds: forward ends in the composition's
    value; backward succeeds and the last gradient it hands on is the reverse-mode composition; if every
    layer's backward function is its transposed Jacobian at the point it is evaluated at, that is the
    gradient of the objective with respect to the network input -/
theorem network_gradient {a : Idx} {ea : Enc a} {c : Idx} {ec : Enc c} (n : Network ℝ) (ch : Chain a ea c ec)
    (hn : n.layers = layers ch) (hc : n.connect = []) (hl : n.loopbacks = []) (x : V a.T) (hr : Real ch x)
    (hok : (gnet ch).Ok x) (ℓ : V c.T → ℝ) (g : V c.T) (hg : IsGrad ℓ ((gnet ch).fwd x) g) :
    ∃ t ws bs gs,
      n.forward (ea x) = .ok t ∧ t.act.getLast? = some (ec ((gnet ch).fwd x)) ∧
      n.backward (ec g) t = .ok (ws, bs, gs) ∧ gs.getLast? = some (ea ((gnet ch).bwd x g)) ∧
      IsGrad (ℓ ∘ (gnet ch).fwd) x ((gnet ch).bwd x g) ∧
      FirstGrads ch x g ws bs ∧ ws = (allGrads ch x g).map (·.1) ∧ bs = (allGrads ch x g).map (·.2) := by
  refine ⟨_, _, _, _, network_forward n ch hn hc hl x hr, acts_last ch x,
    network_backward n ch hn hc x g (trace ch x) (BackReal.of_sits _ ch x 0 hr (sits_self _)) rfl rfl, ?_,
    GNet.grad (gnet ch) x hok ℓ g hg, firstGrads_allGrads ch x g, rfl, rfl⟩
  rw [List.getLast?_cons, handed_last]

/-- the gradient of a layer's parameters `θ` in front of any heterogeneous stack: the layer's parameter-VJP
    applied to the gradient the rest of the network hands back to it -/
theorem parameter_gradient {ι : Type} [Fintype ι] [DecidableEq ι] {b c : Idx} (layer : V ι → V b.T) (θ : V ι)
    (bθ : V b.T → V ι) (hθ : IsVJP layer θ bθ)
    (rest : GNet b c) (hrest : rest.Ok (layer θ)) (ℓ : V c.T → ℝ) (g : V c.T)
    (hl : IsGrad ℓ (rest.fwd (layer θ)) g) :
    IsGrad (fun θ' => ℓ (rest.fwd (layer θ'))) θ (bθ (rest.bwd (layer θ) g)) ∧
    ∀ p, HasDerivAt (fun s => ℓ (rest.fwd (layer (Function.update θ p s)))) (bθ (rest.bwd (layer θ) g) p) (θ p) := by
  have h1 : IsGrad (ℓ ∘ rest.fwd) (layer θ) (rest.bwd (layer θ) g) := GNet.grad rest _ hrest ℓ g hl
  have h2 := IsGrad.comp_vjp hθ h1
  exact ⟨h2, fun p => h2.partial p⟩

/-- **a parametrised layer in front of any chain**: besides what `network_gradient` gives, the weight gradient
    recorded last is the first layer's, and the layer's parameter-VJP of the gradient handed back to it is the
    gradient of the objective in the parameters -/
theorem first_link_gradients {ι : Type} [Fintype ι] [DecidableEq ι] {a b c : Idx} {ea : Enc a} {eb : Enc b} {ec : Enc c}
    (n : Network ℝ) (l : Layer ℝ) (layer : V ι → V a.T → V b.T) (θ : V ι) (bwd : V a.T → V b.T → V a.T)
    (pre : V a.T → Tensor ℝ) (rc : V a.T → Recorded ℝ) (wg : V a.T → V b.T → WGrad ℝ × BGrad ℝ) (tail : Chain b eb c ec)
    (hn : n.layers = l :: layers tail) (hc : n.connect = []) (hl : n.loopbacks = []) (x : V a.T)
    (hlink : layerForward l (ea x) = .ok (pre x, eb (layer θ x), rc x) ∧
      ∀ g, layerBackward l (eb g) (ea x) (pre x) (.ok (rc x)) = .ok (ea (bwd x g), (wg x g).1, (wg x g).2))
    (hrt : Real tail (layer θ x)) (hx : IsVJP (layer θ) x (bwd x)) (htail : (gnet tail).Ok (layer θ x))
    (bθ : V b.T → V ι) (hθ : IsVJP (fun θ' => layer θ' x) θ bθ)
    (ℓ : V c.T → ℝ) (g : V c.T) (hg : IsGrad ℓ ((gnet tail).fwd (layer θ x)) g) :
    ∃ t ws bs gs,
      n.forward (ea x) = .ok t ∧ t.act.getLast? = some (ec ((gnet tail).fwd (layer θ x))) ∧
      n.backward (ec g) t = .ok (ws, bs, gs) ∧
      gs.getLast? = some (ea (bwd x ((gnet tail).bwd (layer θ x) g))) ∧
      ws.getLast? = some (wg x ((gnet tail).bwd (layer θ x) g)).1 ∧
      IsGrad (fun z => ℓ ((gnet tail).fwd (layer θ z))) x (bwd x ((gnet tail).bwd (layer θ x) g)) ∧
      IsGrad (fun θ' => ℓ ((gnet tail).fwd (layer θ' x))) θ (bθ ((gnet tail).bwd (layer θ x) g)) := by
  obtain ⟨t, ws, bs, gs, h1, h2, h3, h4, h5, h6, _⟩ :=
    network_gradient n (Chain.cons (ea := ea) l (layer θ) bwd pre rc wg tail) hn hc hl x (.cons hlink hrt)
      ⟨hx, htail⟩ ℓ g hg
  exact ⟨t, ws, bs, gs, h1, h2, h3, h4, h6.1, h5, (parameter_gradient (fun θ' => layer θ' x) θ bθ hθ (gnet tail) htail ℓ g hg).1⟩

end LayerChain

namespace SkipWalk
open LayerChain

/-- what a skip connection needs of the encoding at its two ends: encoded vectors can be added, have one shape, and reshaping
    to that shape changes nothing.  Both skip theories (Proofs/SkipWalk.lean, Proofs/SkipNet.lean) ask it of an `Enc`. -/
structure EncAdd {m : VJP.Idx} (em : Enc m) : Prop where
  add : ∀ u v, (em u).add (em v) = .ok (em (u + v))
  shape : ∀ u v, (em u).shape = (em v).shape
  reshape : ∀ u v, (em u).reshape (em v).shape = .ok (em u)

end SkipWalk
