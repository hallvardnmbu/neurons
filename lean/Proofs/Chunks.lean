import Proofs.Basics

/-!
# `L.chunks` (`par_chunks`): consecutive groups of `n`, the last may be shorter
`L.chunksExact` (`chunks_exact`) drops a shorter last group.
-/

namespace L
variable {β : Type}

theorem chunksAux_flatten (n : Nat) (hn : 0 < n) : ∀ (fuel : Nat) (l : List β), l.length ≤ fuel →
    (chunksAux n fuel l).flatten = l := by
  intro fuel
  induction fuel with
  | zero => intro l h; rw [List.eq_nil_of_length_eq_zero (Nat.le_zero.mp h)]; rfl
  | succ fuel ih =>
    intro l h
    cases l with
    | nil => rfl
    | cons x xs =>
      simp only [chunksAux, List.flatten_cons]
      rw [ih _ (by rw [List.length_drop]; omega)]
      exact List.take_append_drop n (x :: xs)

theorem chunks_flatten (n : Nat) (hn : 0 < n) (l : List β) : (chunks n l).flatten = l :=
  chunksAux_flatten n hn l.length l (Nat.le_refl _)

theorem chunksAux_getElem? (n : Nat) (hn : 0 < n) : ∀ (fuel : Nat) (l : List β), l.length ≤ fuel → ∀ g : Nat,
    (chunksAux n fuel l)[g]? = if g * n < l.length then some ((l.drop (g * n)).take n) else none := by
  intro fuel
  induction fuel with
  | zero =>
    intro l hl g
    rw [List.eq_nil_of_length_eq_zero (Nat.le_zero.mp hl)]
    exact (if_neg (Nat.not_lt_zero _)).symm
  | succ f ih =>
    intro l hl g
    cases l with
    | nil => exact (if_neg (Nat.not_lt_zero _)).symm
    | cons x xs =>
      simp only [chunksAux]
      cases g with
      | zero => simp
      | succ k =>
        have hlen : ((x :: xs).drop n).length ≤ f := by
          simp only [List.length_drop, List.length_cons] at *; omega
        rw [List.getElem?_cons_succ, ih _ hlen k, List.length_drop, List.drop_drop, Nat.succ_mul, Nat.add_comm (k * n) n]
        simp only [Nat.lt_sub_iff_add_lt']

theorem chunks_getElem? (n : Nat) (hn : 0 < n) (l : List β) (g : Nat) :
    (chunks n l)[g]? = if g * n < l.length then some ((l.drop (g * n)).take n) else none :=
  chunksAux_getElem? n hn l.length l (Nat.le_refl _) g

theorem chunks_getElem?_some (n : Nat) (hn : 0 < n) (l : List β) {g : Nat} {c : List β} (h : (chunks n l)[g]? = some c) :
    g * n < l.length ∧ c.length = min n (l.length - g * n) := by
  rw [chunks_getElem? n hn l g] at h
  split at h
  · cases h; exact ⟨‹_›, by rw [List.length_take, List.length_drop]⟩
  · cases h

theorem chunks_bounds (n : Nat) (hn : 0 < n) (l : List β) : ∀ c ∈ chunks n l, 0 < c.length ∧ c.length ≤ n := by
  intro c hc
  obtain ⟨g, hg⟩ := List.getElem?_of_mem hc
  obtain ⟨hlt, hlen⟩ := chunks_getElem?_some n hn l hg
  rw [hlen]
  exact ⟨Nat.lt_min.mpr ⟨hn, Nat.sub_pos_of_lt hlt⟩, Nat.min_le_left _ _⟩

theorem chunks_count (n : Nat) (hn : 0 < n) (l : List β) : (chunks n l).length = (l.length + n - 1) / n := by
  have key : ∀ g, (chunks n l).length ≤ g ↔ l.length ≤ g * n := fun g => by
    rw [← List.getElem?_eq_none_iff, chunks_getElem? n hn l g]
    simp only [ite_eq_right_iff, reduceCtorEq, imp_false, Nat.not_lt]
  apply Nat.le_antisymm
  · apply (key _).mpr
    have := Nat.lt_mul_div_succ (l.length + n - 1) hn
    rw [Nat.mul_succ, Nat.mul_comm] at this
    omega
  · apply Nat.lt_succ_iff.mp
    rw [Nat.div_lt_iff_lt_mul hn, Nat.succ_mul]
    have := (key _).mp (Nat.le_refl _)
    omega

theorem chunks_full (n : Nat) (hn : 0 < n) (l : List β) : ∀ c ∈ (chunks n l).dropLast, c.length = n := by
  intro c hc
  obtain ⟨g, hg⟩ := List.getElem?_of_mem hc
  rw [List.getElem?_dropLast] at hg
  split at hg
  · -- group `g + 1` exists, so `(g + 1) * n < l.length` and group `g` is a full window
    have hnext := (chunks_getElem?_some n hn l (List.getElem?_eq_getElem (i := g + 1) (by omega))).1
    rw [Nat.succ_mul, Nat.add_comm] at hnext
    rw [(chunks_getElem?_some n hn l hg).2]
    exact Nat.min_eq_left (Nat.le_sub_of_add_le (Nat.le_of_lt hnext))
  · cases hg

theorem chunksAux_uniform (n : Nat) (hn : 0 < n) (gs : List (List β)) : ∀ (fuel : Nat),
    (∀ g ∈ gs, g.length = n) → gs.flatten.length ≤ fuel → chunksAux n fuel gs.flatten = gs := by
  induction gs with
  | nil => intro fuel _ _; cases fuel <;> rfl
  | cons g gs ih =>
    intro fuel hg hf
    obtain ⟨hgl, hgs⟩ := List.forall_mem_cons.mp hg
    rw [List.flatten_cons, List.length_append, hgl] at hf
    -- the first group is not empty: the concatenation is a `cons`, and one unit of fuel is used
    obtain ⟨a, g', rfl⟩ := List.exists_cons_of_length_pos (hgl ▸ hn)
    cases fuel with
    | zero => exact absurd (Nat.le_zero.mp hf) (Nat.ne_of_gt (Nat.add_pos_left hn _))
    | succ fuel =>
      rw [List.flatten_cons]
      show ((a :: g') ++ gs.flatten).take n :: chunksAux n fuel (((a :: g') ++ gs.flatten).drop n) = _
      rw [List.take_left' hgl, List.drop_left' hgl,
        ih fuel hgs (Nat.le_of_lt_succ (Nat.lt_of_lt_of_le (Nat.lt_add_of_pos_left hn) hf))]

theorem chunksExact_flatten {n : Nat} (hn : 0 < n) {gs : List (List β)} (hg : ∀ g ∈ gs, g.length = n) :
    chunksExact n gs.flatten = gs := by
  unfold chunksExact chunks
  rw [chunksAux_uniform n hn gs _ hg (Nat.le_refl _), List.filter_eq_self]
  intro g hgm
  simp [hg g hgm]

end L
