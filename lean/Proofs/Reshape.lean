import Model.Tensor

/-!
# The shape predicates `Dims2/3/4`, and the row-major readers (`takeRows`, `takeMats`, `toTriple`) against `flatten3`
Core Lean only.

`Dims`-`k` says a nested list is a full box: `n` cells, each a box of rank `k - 1` (`dims_map` and `dims_getD` are stated
about that form, and so serve at every rank); with positive extents the checked constructors accept it
(`Tensor.triple_of_dims`, `Tensor.quadruple_of_dims`), because there is a first row to read the extents off (`dims3_cons`).

The readers are characterised by what they do on a concatenation: reading `k` rows of width `w` off
`m.flatten ++ rest` gives back `(m, rest)` (`takeRows_flatten`, `takeMats_flatten`); every long enough list is such a
concatenation (`exists_rows`); a shorter one is refused.  No case analysis on a reader's result is needed.
-/

namespace L
variable {α β : Type}

def Dims2 (m : List (List α)) (h w : Nat) : Prop := m.length = h ∧ ∀ r ∈ m, r.length = w

def Dims3 (t : List (List (List β))) (c h w : Nat) : Prop :=
  t.length = c ∧ ∀ m ∈ t, m.length = h ∧ ∀ r ∈ m, r.length = w

theorem dims3_iff (t : List (List (List α))) (c h w : Nat) :
    Dims3 t c h w ↔ t.length = c ∧ ∀ m ∈ t, Dims2 m h w := Iff.rfl

def Dims4 (q : V4 α) (k c h w : Nat) : Prop := q.length = k ∧ ∀ t ∈ q, Dims3 t c h w

def flatten4 (q : V4 α) : List α := (q.map flatten3).flatten

theorem dims_map {γ : Type} {P : β → Prop} {Q : γ → Prop} (g : β → γ) (hg : ∀ x, P x → Q (g x)) {l : List β} {n : Nat}
    (d : l.length = n ∧ ∀ x ∈ l, P x) : (l.map g).length = n ∧ ∀ y ∈ l.map g, Q y :=
  ⟨by rw [List.length_map, d.1], fun _ hy => by
    obtain ⟨x, hx, rfl⟩ := List.mem_map.mp hy
    exact hg x (d.2 x hx)⟩

theorem dims_getD {P : β → Prop} {l : List β} {n i : Nat} (dflt : β) (d : l.length = n ∧ ∀ x ∈ l, P x) (hi : i < n) :
    P (l.getD i dflt) := by
  have h : i < l.length := d.1.symm ▸ hi
  rw [List.getD_eq_getElem?_getD, List.getElem?_eq_getElem h]
  exact d.2 _ (List.getElem_mem h)

theorem sum_map_const {γ : Type} {l : List γ} {f : γ → Nat} {k : Nat} (h : ∀ x ∈ l, f x = k) :
    (l.map f).sum = l.length * k := by
  rw [List.map_eq_replicate_iff.mpr h, List.sum_replicate_nat]

theorem length_flatten_rows {m : List (List β)} {h w : Nat} (d : Dims2 m h w) :
    m.flatten.length = h * w := by
  rw [List.length_flatten, sum_map_const d.2, d.1]

theorem dims2_map_flatten {t : List (List (List β))} {c h w : Nat} (d : Dims3 t c h w) :
    Dims2 (t.map List.flatten) c (h * w) :=
  dims_map List.flatten (fun _ => length_flatten_rows) d

theorem length_flatten3 {t : List (List (List β))} {c h w : Nat} (d : Dims3 t c h w) :
    (flatten3 t).length = c * h * w := by
  rw [flatten3, length_flatten_rows (dims2_map_flatten d), Nat.mul_assoc]

/-- with `c, h ≥ 1` there is a first row of a first matrix (what the Rust code reads as `data[0][0]`) -/
theorem dims3_cons {t : List (List (List β))} {c h w : Nat} (d : Dims3 t c h w) (hc : 0 < c) (hh : 0 < h) :
    ∃ r m cs, t = (r :: m) :: cs ∧ (r :: m).length = h ∧ r.length = w := by
  obtain ⟨rfl, hm⟩ := d
  cases t with
  | nil => exact absurd hc (Nat.lt_irrefl 0)
  | cons m0 cs =>
    obtain ⟨rfl, h2⟩ := hm m0 (List.mem_cons_self ..)
    cases m0 with
    | nil => exact absurd hh (Nat.lt_irrefl 0)
    | cons r m => exact ⟨r, m, cs, rfl, rfl, h2 r (List.mem_cons_self ..)⟩

theorem dims4_cons {A : List (List (List (List β)))} {k c h w : Nat} (hA : Dims4 A k c h w)
    (hk : 0 < k) (hc : 0 < c) (hh : 0 < h) :
    ∃ r m cs rest, A = ((r :: m) :: cs) :: rest ∧ ((r :: m) :: cs).length = c ∧ (r :: m).length = h ∧ r.length = w := by
  obtain ⟨rfl, hA⟩ := hA
  cases A with
  | nil => exact absurd hk (Nat.lt_irrefl 0)
  | cons t rest =>
    have ht := hA t (List.mem_cons_self ..)
    obtain ⟨r, m, cs, rfl, h3, h4⟩ := dims3_cons ht hc hh
    exact ⟨r, m, cs, rest, rfl, ht.1, h3, h4⟩

theorem exists_rows (w k : Nat) : ∀ (l : List β), k * w ≤ l.length →
    ∃ (m : List (List β)) (rest : List β), Dims2 m k w ∧ m.flatten ++ rest = l := by
  induction k with
  | zero => exact fun l _ => ⟨[], l, ⟨rfl, by simp⟩, rfl⟩
  | succ k ih =>
    intro l h
    rw [Nat.succ_mul] at h
    obtain ⟨m, rest, ⟨h1, h2⟩, h3⟩ := ih (l.drop w) (by rw [List.length_drop]; exact Nat.le_sub_of_add_le h)
    refine ⟨l.take w :: m, rest, ⟨by rw [List.length_cons, h1], List.forall_mem_cons.mpr ⟨?_, h2⟩⟩,
      by rw [List.flatten_cons, List.append_assoc, h3, List.take_append_drop]⟩
    rw [List.length_take]
    exact Nat.min_eq_left (Nat.le_trans (Nat.le_add_left w (k * w)) h)

theorem takeRows_flatten (w : Nat) (m : List (List β)) (rest : List β) {k : Nat} (d : Dims2 m k w) :
    takeRows w k (m.flatten ++ rest) = .ok (m, rest) := by
  obtain ⟨rfl, h⟩ := d
  induction m with
  | nil => rfl
  | cons r rs ih =>
    obtain ⟨hr, hrs⟩ := List.forall_mem_cons.mp h
    subst hr
    simp [takeRows, ih hrs]

theorem takeRows_err (w : Nat) : ∀ (k : Nat) (l : List β), l.length < k * w →
    takeRows w k l = .error .index := by
  intro k
  induction k with
  | zero => intro l h; exact absurd h (by rw [Nat.zero_mul]; exact Nat.not_lt_zero _)
  | succ k ih =>
    intro l h
    rw [Nat.succ_mul] at h
    unfold takeRows
    by_cases hw : l.length < w
    · rw [if_pos hw]
    · rw [if_neg hw, ih _ (by rw [List.length_drop]; omega)]

theorem takeRows_exact (w k : Nat) (l : List β) (h : k * w ≤ l.length) :
    ∃ rows rest, takeRows w k l = .ok (rows, rest) ∧ Dims2 rows k w ∧ rows.flatten ++ rest = l := by
  obtain ⟨m, rest, d, rfl⟩ := exists_rows w k l h
  exact ⟨m, rest, takeRows_flatten w m rest d, d, rfl⟩

theorem takeMats_flatten (h w : Nat) (t : List (List (List β))) (rest : List β) {c : Nat} (d : Dims3 t c h w) :
    takeMats h w c (flatten3 t ++ rest) = .ok (t, rest) := by
  obtain ⟨rfl, ht⟩ := d
  induction t with
  | nil => rfl
  | cons m ms ih =>
    obtain ⟨hm, hms⟩ := List.forall_mem_cons.mp ht
    have e : flatten3 (m :: ms) ++ rest = m.flatten ++ (flatten3 ms ++ rest) := by simp [flatten3]
    simp only [List.length_cons, takeMats, e, takeRows_flatten w m _ hm, ih hms]

theorem takeMats_exact (h w k : Nat) : ∀ (l : List β), k * (h * w) ≤ l.length →
    ∃ ms rest, takeMats h w k l = .ok (ms, rest) ∧ Dims3 ms k h w ∧ flatten3 ms ++ rest = l := by
  induction k with
  | zero => exact fun l _ => ⟨[], l, rfl, ⟨rfl, by simp⟩, rfl⟩
  | succ k ih =>
    intro l hl
    rw [Nat.succ_mul] at hl
    obtain ⟨m, rest1, hm, rfl⟩ := exists_rows w h l (by omega)
    rw [List.length_append, length_flatten_rows hm] at hl
    obtain ⟨ms, rest, e, ⟨rfl, hms⟩, rfl⟩ := ih rest1 (by omega)
    exact ⟨m :: ms, rest, by simp only [takeMats, takeRows_flatten w m _ hm, e],
      ⟨rfl, List.forall_mem_cons.mpr ⟨hm, hms⟩⟩, by simp [flatten3]⟩

theorem takeMats_err (h w k : Nat) : ∀ (l : List β), l.length < k * (h * w) →
    takeMats h w k l = .error .index := by
  induction k with
  | zero => intro l hl; simp at hl
  | succ k ih =>
    intro l hl
    rw [Nat.succ_mul] at hl
    unfold takeMats
    by_cases hs : l.length < h * w
    · rw [takeRows_err w h l hs]
    · obtain ⟨m, rest1, hm, rfl⟩ := exists_rows w h l (by omega)
      rw [List.length_append, length_flatten_rows hm] at hl
      rw [takeRows_flatten w m rest1 hm]
      simp only [ih rest1 (by omega)]

theorem toTriple_exact (c h w : Nat) (l : List β) (hl : l.length = c * h * w) :
    ∃ t, toTriple c h w l = .ok t ∧ Dims3 t c h w ∧ flatten3 t = l := by
  obtain ⟨ms, rest, e, d, rfl⟩ := takeMats_exact h w c l (by rw [hl, Nat.mul_assoc]; exact Nat.le_refl _)
  rw [List.length_append, length_flatten3 d] at hl
  have : rest = [] := List.eq_nil_of_length_eq_zero (by omega)
  subst this
  exact ⟨ms, by simp only [toTriple, e], d, by simp⟩

theorem toTriple_flatten3 {c h w : Nat} {t : List (List (List β))} (d : Dims3 t c h w) :
    toTriple c h w (flatten3 t) = .ok t := by
  have := takeMats_flatten h w t [] d
  rw [List.append_nil] at this
  simp only [toTriple, this]

theorem toTriple_short (c h w : Nat) (l : List β) (hl : l.length < c * h * w) :
    ∃ e, toTriple c h w l = .error e :=
  ⟨.index, by simp only [toTriple, takeMats_err h w c l (by rw [← Nat.mul_assoc]; exact hl)]⟩

theorem flatten_uniform_getElem? (m : List (List β)) (w : Nat) (hm : ∀ r ∈ m, r.length = w)
    (i j : Nat) (hj : j < w) : m.flatten[i * w + j]? = (m[i]?).bind (·[j]?) := by
  induction m generalizing i with
  | nil => simp
  | cons r rs ih =>
    have hr : r.length = w := hm r (List.mem_cons_self ..)
    cases i with
    | zero =>
      simp only [List.flatten_cons, Nat.zero_mul, Nat.zero_add, List.getElem?_cons_zero, Option.bind_some]
      exact List.getElem?_append_left (hr ▸ hj)
    | succ n =>
      simp only [List.flatten_cons, List.getElem?_cons_succ]
      have e : (n + 1) * w + j = r.length + (n * w + j) := by rw [Nat.succ_mul, hr, Nat.add_right_comm, Nat.add_comm]
      rw [e, List.getElem?_append_right (Nat.le_add_right _ _), Nat.add_sub_cancel_left]
      exact ih (fun x hx => hm x (List.mem_cons_of_mem _ hx)) n

theorem flatten3_getElem? {t : List (List (List β))} {c h w : Nat} (d : Dims3 t c h w)
    (i j k : Nat) (hj : j < h) (hk : k < w) :
    (flatten3 t)[i * (h * w) + (j * w + k)]? = ((t[i]?).bind (·[j]?)).bind (·[k]?) := by
  have hlt : j * w + k < h * w :=
    Nat.lt_of_lt_of_le (Nat.add_lt_add_left hk _) (Nat.succ_mul j w ▸ Nat.mul_le_mul_right w hj)
  rw [flatten3, flatten_uniform_getElem? _ (h * w) (dims2_map_flatten d).2 i (j * w + k) hlt, List.getElem?_map]
  cases hi : t[i]? with
  | none => rfl
  | some m => exact flatten_uniform_getElem? m w (d.2 m (List.mem_of_getElem? hi)).2 j k hk

end L

/-- `Tensor::triple` reads the extents off the data: on non-empty rectangular data they are the data's -/
theorem Tensor.triple_of_dims {α : Type} {A : V3 α} {c h w : Nat} (hA : L.Dims3 A c h w) (hc : 0 < c) (hh : 0 < h) :
    Tensor.triple A = .ok ⟨.triple c h w, .triple A⟩ := by
  obtain ⟨r, m, rest, rfl, h1, h2⟩ := L.dims3_cons hA hc hh
  simp only [Tensor.triple, hA.1, h1, h2]

theorem Tensor.quadruple_of_dims {α : Type} {A : V4 α} {k c h w : Nat} (hA : L.Dims4 A k c h w) (hk : 0 < k) (hc : 0 < c) (hh : 0 < h) :
    Tensor.quadruple A = .ok ⟨.quadruple k c h w, .quadruple A⟩ := by
  obtain ⟨r, m, cs, rest, rfl, h1, h2, h3⟩ := L.dims4_cons hA hk hc hh
  simp only [Tensor.quadruple, hA.1, h1, h2, h3]
