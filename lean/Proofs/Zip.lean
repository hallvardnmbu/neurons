import Proofs.Reshape

/-!
# The in-place zip (`zipKeep`) at every rank, element-wise maps, and the shape predicates they keep
Core Lean only.

The shape predicates `L.Dims2/3/4` are in `Proofs/Reshape.lean`.  `Tensor.Wf` and `Tensor.flat` (`Proofs/TensorWf.lean`) write
the same conditions out by hand, so a `Wf` hypothesis at rank `k` is a `Dims`-`k` one by `Iff.rfl`.  Each predicate unfolds to
"`n` cells, each satisfying `P`", and the lemmas that work at every rank (`dims_zipKeep`, `flatten_zipKeep_gen`, and
`dims_map`, `dims_getD` of `Proofs/Reshape.lean`) are stated about that form.
-/

namespace L
variable {α β γ : Type}

/-- on equal lengths the truncating `zipWith` (where Rust collects a new vector) is the in-place zip; the cell operations
    need only agree on the cells present, so the statement lifts through nesting -/
theorem zipWith_eq_zipKeep_of (g g' : β → γ → β) (a : List β) : ∀ (b : List γ), a.length = b.length →
    (∀ x ∈ a, ∀ y ∈ b, g x y = g' x y) → List.zipWith g a b = zipKeep g' a b := by
  induction a with
  | nil => intro b h _; rw [List.eq_nil_of_length_eq_zero h.symm]; rfl
  | cons x xs ih =>
    intro b h hg
    cases b with
    | nil => cases h
    | cons y ys =>
      rw [List.zipWith_cons_cons, zipKeep, hg x (List.mem_cons_self ..) y (List.mem_cons_self ..),
        ih ys (Nat.succ.inj h) (fun x hx y hy => hg x (List.mem_cons_of_mem _ hx) y (List.mem_cons_of_mem _ hy))]

theorem zipKeep_eq_zipWith (f : β → γ → β) (a : List β) (b : List γ) (h : a.length = b.length) :
    zipKeep f a b = List.zipWith f a b :=
  (zipWith_eq_zipKeep_of f f a b h (fun _ _ _ _ => rfl)).symm

theorem length_zipKeep (f : β → γ → β) (a : List β) : ∀ (b : List γ), (zipKeep f a b).length = a.length := by
  induction a with
  | nil => intro _; rfl
  | cons x xs ih =>
    intro b
    cases b with
    | nil => rfl
    | cons y ys => rw [zipKeep, List.length_cons, ih ys, List.length_cons]

theorem dims_zipKeep {P : β → Prop} (g : β → β → β) (hg : ∀ x y, P x → P y → P (g x y)) {a b : List β} {n : Nat}
    (da : a.length = n ∧ ∀ x ∈ a, P x) (db : b.length = n ∧ ∀ y ∈ b, P y) :
    (zipKeep g a b).length = n ∧ ∀ z ∈ zipKeep g a b, P z := by
  refine ⟨by rw [length_zipKeep, da.1], fun z hz => ?_⟩
  rw [zipKeep_eq_zipWith g a b (da.1.trans db.1.symm)] at hz
  obtain ⟨i, hi⟩ := List.getElem?_of_mem hz
  obtain ⟨x, y, hx, hy, rfl⟩ := List.getElem?_zipWith_eq_some.mp hi
  exact hg x y (da.2 x (List.mem_of_getElem? hx)) (db.2 y (List.mem_of_getElem? hy))

theorem flatten_zipKeep_gen (f : α → α → α) (g : β → β → β) (φ : β → List α) (n : Nat) (P : β → Prop)
    (hP : ∀ x, P x → (φ x).length = n)
    (hg : ∀ x y, P x → P y → φ (g x y) = List.zipWith f (φ x) (φ y)) :
    ∀ (a b : List β), a.length = b.length → (∀ x ∈ a, P x) → (∀ y ∈ b, P y) →
      ((zipKeep g a b).map φ).flatten = List.zipWith f (a.map φ).flatten (b.map φ).flatten := by
  intro a
  induction a with
  | nil => intro b h _ _; rw [List.eq_nil_of_length_eq_zero h.symm]; rfl
  | cons x xs ih =>
    intro b h ha hb
    cases b with
    | nil => cases h
    | cons y ys =>
      obtain ⟨hx, hxs⟩ := List.forall_mem_cons.mp ha
      obtain ⟨hy, hys⟩ := List.forall_mem_cons.mp hb
      simp only [zipKeep, List.map_cons, List.flatten_cons]
      rw [ih ys (Nat.succ.inj h) hxs hys, hg x y hx hy, List.zipWith_append (by rw [hP x hx, hP y hy])]

theorem zip1_spec (f : α → α → α) (a b : List α) (h : a.length = b.length) :
    zip1 f a b = List.zipWith f a b ∧ (zip1 f a b).length = a.length :=
  ⟨zipKeep_eq_zipWith f a b h, length_zipKeep f a b⟩

theorem zip2_dims (f : α → α → α) {a b : V2 α} {h w : Nat} (ha : Dims2 a h w) (hb : Dims2 b h w) :
    Dims2 (zip2 f a b) h w :=
  dims_zipKeep (zip1 f) (fun x y hx _ => by rw [zip1, length_zipKeep]; exact hx) ha hb

theorem zip2_flat (f : α → α → α) {a b : V2 α} {h w : Nat} (ha : Dims2 a h w) (hb : Dims2 b h w) :
    (zip2 f a b).flatten = List.zipWith f a.flatten b.flatten := by
  have := flatten_zipKeep_gen f (zip1 f) id w (fun r => r.length = w) (fun _ h => h)
    (fun x y hx hy => by simp only [id]; exact zipKeep_eq_zipWith f x y (by rw [hx, hy]))
    a b (by rw [ha.1, hb.1]) ha.2 hb.2
  simpa [zip2] using this

theorem zip3_dims (f : α → α → α) {a b : V3 α} {c h w : Nat} (ha : Dims3 a c h w) (hb : Dims3 b c h w) :
    Dims3 (zip3 f a b) c h w :=
  dims_zipKeep (zip2 f) (fun _ _ => zip2_dims f) ha hb

theorem zip3_flat (f : α → α → α) {a b : V3 α} {c h w : Nat} (ha : Dims3 a c h w) (hb : Dims3 b c h w) :
    flatten3 (zip3 f a b) = List.zipWith f (flatten3 a) (flatten3 b) :=
  flatten_zipKeep_gen f (zip2 f) List.flatten (h * w) (fun m => Dims2 m h w)
    (fun _ => length_flatten_rows)
    (fun _ _ => zip2_flat f)
    a b (by rw [ha.1, hb.1]) ha.2 hb.2

theorem zip4_dims (f : α → α → α) {a b : V4 α} {k c h w : Nat} (ha : Dims4 a k c h w) (hb : Dims4 b k c h w) :
    Dims4 (zip4 f a b) k c h w :=
  dims_zipKeep (zip3 f) (fun _ _ => zip3_dims f) ha hb

theorem zip4_flat (f : α → α → α) {a b : V4 α} {k c h w : Nat} (ha : Dims4 a k c h w) (hb : Dims4 b k c h w) :
    flatten4 (zip4 f a b) = List.zipWith f (flatten4 a) (flatten4 b) :=
  flatten_zipKeep_gen f (zip3 f) flatten3 (c * h * w) (fun t => Dims3 t c h w)
    (fun _ => length_flatten3)
    (fun _ _ => zip3_flat f)
    a b (by rw [ha.1, hb.1]) ha.2 hb.2

theorem zipWith2_eq_zip2 (f : α → α → α) {a b : V2 α} {h w : Nat} (ha : Dims2 a h w) (hb : Dims2 b h w) :
    List.zipWith (List.zipWith f) a b = zip2 f a b :=
  zipWith_eq_zipKeep_of _ _ a b (by rw [ha.1, hb.1])
    (fun x hx y hy => (zipKeep_eq_zipWith f x y (by rw [ha.2 x hx, hb.2 y hy])).symm)

theorem zipWith3_eq_zip3 (f : α → α → α) {a b : V3 α} {c h w : Nat} (ha : Dims3 a c h w) (hb : Dims3 b c h w) :
    List.zipWith (List.zipWith (List.zipWith f)) a b = zip3 f a b :=
  zipWith_eq_zipKeep_of _ _ a b (by rw [ha.1, hb.1])
    (fun x hx y hy => zipWith2_eq_zip2 f (ha.2 x hx) (hb.2 y hy))

theorem getD_zipWith {δ : Type} (f : β → γ → δ) (a : List β) (b : List γ) (i : Nat) (da : β) (db : γ) (dd : δ)
    (ha : i < a.length) (hb : i < b.length) :
    (List.zipWith f a b).getD i dd = f (a.getD i da) (b.getD i db) := by
  simp [List.getD_eq_getElem?_getD, List.getElem?_zipWith, List.getElem?_eq_getElem ha, List.getElem?_eq_getElem hb]

theorem map2_flat (f : α → α) (m : V2 α) : (map2 f m).flatten = m.flatten.map f := by
  simp [map2, List.map_flatten]

theorem map3_flat (f : α → α) (t : V3 α) : flatten3 (map3 f t) = (flatten3 t).map f := by
  simp [flatten3, map3, List.map_flatten, List.map_map, Function.comp_def]

theorem map4_flat (f : α → α) (q : V4 α) : flatten4 (map4 f q) = (flatten4 q).map f := by
  simp [flatten4, flatten3, map4, List.map_flatten, List.map_map, Function.comp_def]

theorem map2_dims (f : α → α) {m : V2 α} {h w : Nat} (d : Dims2 m h w) : Dims2 (map2 f m) h w :=
  dims_map (List.map f) (fun x hx => by rw [List.length_map]; exact hx) d

theorem map3_dims (f : α → α) {t : V3 α} {c h w : Nat} (d : Dims3 t c h w) : Dims3 (map3 f t) c h w :=
  dims_map (map2 f) (fun _ => map2_dims f) d

theorem map4_dims (f : α → α) {q : V4 α} {k c h w : Nat} (d : Dims4 q k c h w) : Dims4 (map4 f q) k c h w :=
  dims_map (map3 f) (fun _ => map3_dims f) d

end L

/-- `Tensor::transpose` reads the extents off the data: on non-empty rectangular data, entry `(j, i)` of the result is
    entry `(i, j)`, whatever shape is recorded -/
theorem Tensor.transpose_of_dims {α : Type} [Scalar α] {s : Shape} {m : V2 α} {r c : Nat} (hm : L.Dims2 m r c)
    (hr : 0 < r) (hc : 0 < c) :
    (⟨s, .double m⟩ : Tensor α).transpose =
      .ok ⟨.double c r, .double ((List.range c).map fun j => m.map fun row => (L.get? row j).getD 0)⟩ := by
  obtain ⟨hlen, hrows⟩ := hm
  cases m with
  | nil => subst hlen; exact absurd hr (Nat.lt_irrefl 0)
  | cons r0 rest =>
    have h0 : r0.length = c := hrows r0 (List.mem_cons_self ..)
    have hany : (r0 :: rest).any (fun row => decide (row.length > r0.length)) = false := by
      rw [List.any_eq_false]
      intro row hrow
      rw [hrows row hrow, h0]
      exact fun h => Nat.lt_irrefl c (of_decide_eq_true h)
    cases r0 with
    | nil => subst h0; exact absurd hc (Nat.lt_irrefl 0)
    | cons v vs =>
      simp only [Tensor.transpose, hany, Bool.false_eq_true, ↓reduceIte]
      rw [h0, hlen]
