import Proofs.ConvVJP
import Proofs.Encodings
import Props.C08

/-!
# `Conv.forward` / `Conv.backward` of the model on `I3`-indexed vectors (C01, C16)
-/

open Finset BigOperators

namespace ConvBridge
open VJP ConvVJP L Scalar RealScalar

variable {kf kc kh kw ih iw oh ow : ℕ}

/-- the model layer is the convolution with kernels `K`, element-wise activation `a`, no dropout in
    effect, announced shapes `kc × ih × iw → kf × oh × ow` -/
structure IsConv (l : Conv ℝ) (a : Act) (K : V (I4 kf kc kh kw)) (ih iw oh ow : ℕ) : Prop where
  kernels : l.kernels = kernelT K
  inputs : l.inputs = .triple kc ih iw
  outputs : l.outputs = .triple kf oh ow
  act : l.act = a
  training : l.training = false
  extent : Conv.extent l (ih + 2 * l.padding.1) (iw + 2 * l.padding.2) kh kw = .ok (oh, ow)
  scale : l.scale l.loops = 1
  -- nothing on the widths: the model reads every extent off `data[0][0]`, which exists as soon as the two outer
  -- extents are positive (`L.dims3_cons`, `L.dims4_cons`)
  pos : 0 < kf ∧ 0 < kc ∧ 0 < kh ∧ 0 < ih ∧ 0 < oh

/-- the layer's pre-activation as a vector function of its input: `ConvVJP.convPre` at the layer's kernels
    (`ConvVJP.convPreK` is the function of the kernels, `pre_eq_convPreK`) -/
noncomputable abbrev pre (l : Conv ℝ) (K : V (I4 kf kc kh kw)) (ih iw oh ow : ℕ) : V (I3 kc ih iw) → V (I3 kf oh ow) :=
  convPre l (toList4 K) kf kc kh kw ih iw oh ow

/-- the table `Conv.convolve` builds on the padded input is the list of the pre-activation vector -/
theorem convolve_table (l : Conv ℝ) (K : V (I4 kf kc kh kw)) (x : V (I3 kc ih iw)) (hkc : 0 < kc) (hih : 0 < ih) (xp : V3 ℝ)
    (hp : Tensor.pad3d (toList3 x) (ih + 2 * l.padding.1) (iw + 2 * l.padding.2) = .ok xp) :
    (toList4 K).map (fun k => (List.range oh).map (fun height => (List.range ow).map (fun width =>
        Conv.convolveAt l xp k kc kh kw (ih + 2 * l.padding.1) (iw + 2 * l.padding.2) height width))) =
      toList3 (pre l K ih iw oh ow x) := by
  simp only [toList4, List.map_ofFn, OfFn.map_range_eq_ofFn, Function.comp_def]
  refine congrArg List.ofFn (funext fun f => congrArg List.ofFn (funext fun i => congrArg List.ofFn (funext fun j => ?_)))
  refine Eq.trans ?_ (convolveAt_pad l (toList4 K) kf kc kh kw ih iw oh ow hkc hih x xp hp (f, i, j))
  simp only [toList4, List.getD_eq_getElem?_getD, OfFn.getElem?_ofFn_fin, Option.getD_some]

theorem convolve_eq (l : Conv ℝ) (a : Act) (K : V (I4 kf kc kh kw)) (hl : IsConv l a K ih iw oh ow) (x : V (I3 kc ih iw))
    (xp : V3 ℝ) (hp : Tensor.pad3d (toList3 x) (ih + 2 * l.padding.1) (iw + 2 * l.padding.2) = .ok xp) :
    Conv.convolve l xp (toList4 K) = .ok (toList3 (pre l K ih iw oh ow x)) := by
  obtain ⟨hkf, hkc, hkh, hih, hoh⟩ := hl.pos
  have hxpd : Dims3 xp kc (ih + 2 * l.padding.1) (iw + 2 * l.padding.2) := by
    have := C08.pad3d_dims (toList3 x) _ _ xp hp
    rwa [(toList3_dims x).1] at this
  obtain ⟨r, m, rest, he, h1, h2⟩ := dims3_cons hxpd hkc (Nat.add_pos_left hih _)
  rw [← convolve_table l K x hkc hih xp hp]
  unfold Conv.convolve
  rw [kernelDims_toList4 K hkf hkc hkh, he]
  simp only [h1, h2, hl.extent]

/-- **`Conv.forward` on the model's tensors is the vector function**: pre-activation = the zero-padded,
    strided, dilated cross-correlation, output = the activation of it, element by element -/
theorem forward_gen (l : Conv ℝ) (a : Act) (K : V (I4 kf kc kh kw)) (hl : IsConv l a K ih iw oh ow) (ha : a ≠ .softmax)
    (x : V (I3 kc ih iw)) :
    l.forward (T3 x) = match (if l.flatten then (T3 (fun i => Act.f a (pre l K ih iw oh ow x i))).flatten
        else .ok (T3 (fun i => Act.f a (pre l K ih iw oh ow x i)))) with
      | .error e => .error e
      | .ok post => .ok (T3 (pre l K ih iw oh ow x), post) := by
  obtain ⟨hkf, hkc, hkh, hih, hoh⟩ := hl.pos
  obtain ⟨xp, hp, -⟩ := C02.pad3d_get (toList3 x) kc ih iw l.padding.1 l.padding.2 (toList3_dims x) hkc hih
  unfold Conv.forward
  rw [entry_T3 x hkc hih, hl.kernels, kernelsOf_kernelT]
  simp only [hp, convolve_eq l a K hl x xp hp, triple_toList3 _ hkf hoh, hl.act, act_forward_T3 a ha _ hkf hoh, hl.training]
  rw [finish_eval]
  generalize (if l.flatten = true then _ else _) = post
  cases post <;> rfl

theorem forward_eq (l : Conv ℝ) (a : Act) (K : V (I4 kf kc kh kw)) (hl : IsConv l a K ih iw oh ow) (ha : a ≠ .softmax)
    (hfl : l.flatten = false) (x : V (I3 kc ih iw)) :
    l.forward (T3 x) = .ok (T3 (pre l K ih iw oh ow x), T3 (fun i => Act.f a (pre l K ih iw oh ow x i))) := by
  rw [forward_gen l a K hl ha x, hfl]
  rfl

/-- the gradient the activation passes down, as `Conv.backward` computes it: `g ⊙ a′(pre)` (times the layer's
    scale, which is 1).  `VJP.delta` is the dense layer's, on `Vec r` and in the order `a′(pre) ⊙ g` (`delta_eq`). -/
noncomputable def delta (a : Act) (p g : V (I3 kf oh ow)) : V (I3 kf oh ow) := fun i => g i * Act.df a (p i) * 1

theorem delta_eq (a : Act) (p g : V (I3 kf oh ow)) : delta a p g = fun i => Act.df a (p i) * g i := by
  funext i; simp only [delta]; ring

/-- **`Conv.backward` on the model's tensors**: the input gradient is `convBwd` (crop of the padded
    scatter) and the kernel gradient is `Conv.kernelGrad` on the padded input, both applied to
    `g ⊙ a′(pre)` -/
theorem backward_eq (l : Conv ℝ) (a : Act) (K : V (I4 kf kc kh kw)) (hl : IsConv l a K ih iw oh ow) (ha : a ≠ .softmax)
    (x : V (I3 kc ih iw)) (g : V (I3 kf oh ow)) (G : Tensor ℝ) (hG : G.getTriple l.outputs = .ok (toList3 g)) :
    ∃ xp, Tensor.pad3d (toList3 x) (ih + 2 * l.padding.1) (iw + 2 * l.padding.2) = .ok xp ∧
    l.backward G (T3 x) (T3 (pre l K ih iw oh ow x)) =
      .ok (T3 (convBwd l (toList4 K) kf kc kh kw ih iw oh ow (delta a (pre l K ih iw oh ow x) g)),
           ⟨.quadruple kf kc kh kw, .quadruple (Conv.kernelGrad l xp (toList3 (delta a (pre l K ih iw oh ow x) g))
              kf kc kh kw oh ow (ih + 2 * l.padding.1) (iw + 2 * l.padding.2))⟩,
           none) := by
  obtain ⟨hkf, hkc, hkh, hih, hoh⟩ := hl.pos
  obtain ⟨xp, hp, hget⟩ := C02.pad3d_get (toList3 x) kc ih iw l.padding.1 l.padding.2 (toList3_dims x) hkc hih
  refine ⟨xp, hp, ?_⟩
  unfold Conv.backward
  rw [hG, hl.act, act_backward_T3 a ha _ hkf hoh]
  simp only [getTriple_T3, hl.kernels, kernelsOf_kernelT, hadamard3d_toList3, hl.scale, kernelDims_toList4 K hkf hkc hkh]
  obtain ⟨r, m, rest, he, h1, h2⟩ := dims3_cons (toList3_dims x) hkc hih
  obtain ⟨dr, dm, drest, hde, hd1, hd2⟩ := dims3_cons
    (toList3_dims (fun i => g i * Act.df a (pre l K ih iw oh ow x i) * 1)) hkf hoh
  have hdelta : delta a (pre l K ih iw oh ow x) g = fun i => g i * Act.df a (pre l K ih iw oh ow x i) * 1 := rfl
  rw [hdelta]
  -- `Conv.backward` matches on `data[0][0]` of both lists: as variables they can be replaced by their cons forms
  generalize hD : toList3 (fun i => g i * Act.df a (pre l K ih iw oh ow x i) * 1) = D at hde ⊢
  generalize hX : toList3 x = X at he hp ⊢
  subst he hde
  simp only [h1, h2, hd1, hd2, hp]
  rw [triple_of_get (C08.conv_input_gradient_shape l (toList4 K) _ kf kc kh kw oh ow ih iw) hkc hih,
    Tensor.quadruple_of_dims (C08.conv_kernel_gradient_shape l xp _ kf kc kh kw oh ow _ _) hkf hkc hkh, ← hD]
  rfl

theorem pre_eq_convPreK (l : Conv ℝ) (x : V (I3 kc ih iw)) (hkc : 0 < kc) (hih : 0 < ih) (xp : V3 ℝ)
    (hp : Tensor.pad3d (toList3 x) (ih + 2 * l.padding.1) (iw + 2 * l.padding.2) = .ok xp) (K' : V (I4 kf kc kh kw)) :
    pre l K' ih iw oh ow x = convPreK l kf kc kh kw oh ow xp (ih + 2 * l.padding.1) (iw + 2 * l.padding.2) K' :=
  funext fun fmn => (convolveAt_pad l (toList4 K') kf kc kh kw ih iw oh ow hkc hih x xp hp fmn).symm

theorem kernelGrad_T4 (l : Conv ℝ) (xp : V3 ℝ) (d : V (I3 kf oh ow)) (ph pw : ℕ) :
    (⟨.quadruple kf kc kh kw, .quadruple (Conv.kernelGrad l xp (toList3 d) kf kc kh kw oh ow ph pw)⟩ : Tensor ℝ) =
      T4 (convBwdK l kf kc kh kw oh ow xp ph pw d) := by
  have ht4 : toList4 (convBwdK l kf kc kh kw oh ow xp ph pw d) =
      Conv.kernelGrad l xp (toList3 d) kf kc kh kw oh ow ph pw :=
    toList4_rd4 (C08.conv_kernel_gradient_shape l xp _ kf kc kh kw oh ow _ _)
  simp only [T4, ht4]

theorem pre_kernels_isVJP (l : Conv ℝ) (K : V (I4 kf kc kh kw)) (x : V (I3 kc ih iw)) (hkc : 0 < kc) (hih : 0 < ih)
    (xp : V3 ℝ) (hp : Tensor.pad3d (toList3 x) (ih + 2 * l.padding.1) (iw + 2 * l.padding.2) = .ok xp) :
    IsVJP (fun K' => pre l K' ih iw oh ow x) K
      (convBwdK l kf kc kh kw oh ow xp (ih + 2 * l.padding.1) (iw + 2 * l.padding.2)) := by
  simp only [pre_eq_convPreK l x hkc hih xp hp]
  exact conv_kernel_isVJP l kf kc kh kw oh ow xp (ih + 2 * l.padding.1) (iw + 2 * l.padding.2) K

end ConvBridge
