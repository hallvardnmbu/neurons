import Proofs.MaxpoolBridge

/-!
# Away from ties the max-pool is locally the selection of the recorded positions (C01)
-/

open Finset BigOperators Topology Filter

namespace MaxpoolLocal
open VJP ConvVJP ConvBridge MaxpoolVJP MaxpoolBridge L Scalar RealScalar

variable {ic ih iw oh ow : ℕ}

/-- a window with a strict, unique maximum above the scan's start value: the scan returns it and its position -/
theorem window_unique (l : Maxpool ℝ) (X : V3 ℝ) (c h w ih iw k li : ℕ) (hk : k < l.kernel.1) (hli : li < l.kernel.2)
    (hin : h + k < ih ∧ w + li < iw) (hmin : (Scalar.minVal : ℝ) < L.get3D 0 X c (h + k) (w + li))
    (huniq : ∀ k' li', k' < l.kernel.1 → li' < l.kernel.2 → h + k' < ih ∧ w + li' < iw → (k', li') ≠ (k, li) →
      L.get3D 0 X c (h + k') (w + li') < L.get3D 0 X c (h + k) (w + li)) :
    Maxpool.window l X c h w ih iw = (L.get3D 0 X c (h + k) (w + li), (h + k, w + li)) := by
  have hdom := C02.maxpool_window_dominates l X c h w ih iw k li hk hli hin
  rcases C02.maxpool_window_attained l X c h w ih iw with h0 | ⟨k', li', hk', hli', h1, h2, h3, h4⟩
  · rw [h0] at hdom
    exact absurd hdom (not_le.mpr hmin)
  · by_cases hsame : (k', li') = (k, li)
    · obtain ⟨rfl, rfl⟩ := Prod.mk.inj hsame
      exact Prod.ext h4 h3
    · have := huniq k' li' hk' hli' ⟨h1, h2⟩ hsame
      rw [h4] at hdom
      exact absurd hdom (not_le.mpr this)

/-- no window of the input has a tie for its maximum, and every maximum exceeds the scan's start value `Scalar.minVal`
    (`f32::MIN`; `-2^128` at `ℝ`, `Proofs/Real.lean`): a window with nothing above it makes the scan report the start
    value and position `(0, 0)` (`C02.maxpool_window_attained`), so such inputs are excluded here -/
def NoTies (l : Maxpool ℝ) (ih iw oh ow : ℕ) (x : V (I3 ic ih iw)) : Prop :=
  ∀ q : I3 ic oh ow, ∃ k li, k < l.kernel.1 ∧ li < l.kernel.2 ∧
    (q.2.1.val * l.stride.1 + k < ih ∧ q.2.2.val * l.stride.2 + li < iw) ∧
    (Scalar.minVal : ℝ) < L.get3D 0 (toList3 x) q.1.val (q.2.1.val * l.stride.1 + k) (q.2.2.val * l.stride.2 + li) ∧
    ∀ k' li', k' < l.kernel.1 → li' < l.kernel.2 →
      q.2.1.val * l.stride.1 + k' < ih ∧ q.2.2.val * l.stride.2 + li' < iw → (k', li') ≠ (k, li) →
      L.get3D 0 (toList3 x) q.1.val (q.2.1.val * l.stride.1 + k') (q.2.2.val * l.stride.2 + li') <
        L.get3D 0 (toList3 x) q.1.val (q.2.1.val * l.stride.1 + k) (q.2.2.val * l.stride.2 + li)

theorem co_continuous {c a b : ℕ} : Continuous (fun x' : V (I3 ic ih iw) => L.get3D 0 (toList3 x') c a b) := by
  by_cases h : c < ic ∧ a < ih ∧ b < iw
  · simp only [get3D_toList3, dif_pos h]
    exact continuous_apply _
  · simp only [get3D_toList3, dif_neg h]
    exact continuous_const

/-- a strict, unique maximum of a window above the start value persists near `x` (finitely many strict inequalities
    between continuous functions), so there the scan keeps returning the same position -/
theorem window_eventually (l : Maxpool ℝ) (x : V (I3 ic ih iw)) (c h w k li : ℕ) (hk : k < l.kernel.1) (hli : li < l.kernel.2)
    (hin : h + k < ih ∧ w + li < iw) (hmin : (Scalar.minVal : ℝ) < L.get3D 0 (toList3 x) c (h + k) (w + li))
    (huniq : ∀ k' li', k' < l.kernel.1 → li' < l.kernel.2 → h + k' < ih ∧ w + li' < iw → (k', li') ≠ (k, li) →
      L.get3D 0 (toList3 x) c (h + k') (w + li') < L.get3D 0 (toList3 x) c (h + k) (w + li)) :
    ∀ᶠ x' in 𝓝 x, Maxpool.window l (toList3 x') c h w ih iw = (L.get3D 0 (toList3 x') c (h + k) (w + li), (h + k, w + li)) := by
  have hev1 : ∀ᶠ x' in 𝓝 x, (Scalar.minVal : ℝ) < L.get3D 0 (toList3 x') c (h + k) (w + li) :=
    continuousAt_const.eventually_lt co_continuous.continuousAt hmin
  have hev2 : ∀ᶠ x' in 𝓝 x, ∀ k' ∈ Finset.range l.kernel.1, ∀ li' ∈ Finset.range l.kernel.2,
      h + k' < ih ∧ w + li' < iw → (k', li') ≠ (k, li) →
      L.get3D 0 (toList3 x') c (h + k') (w + li') < L.get3D 0 (toList3 x') c (h + k) (w + li) := by
    simp only [Filter.eventually_all_finset, Filter.eventually_imp_distrib_left]
    intro k' hk' li' hli' hin' hne
    exact co_continuous.continuousAt.eventually_lt co_continuous.continuousAt
      (huniq k' li' (Finset.mem_range.mp hk') (Finset.mem_range.mp hli') hin' hne)
  filter_upwards [hev1, hev2] with x' h1 h2
  exact window_unique l (toList3 x') c h w ih iw k li hk hli hin h1
    (fun k' li' hk' hli' => h2 k' (Finset.mem_range.mpr hk') li' (Finset.mem_range.mpr hli'))

theorem pool_eventually_select (l : Maxpool ℝ) (hl : IsPool l ic ih iw oh ow) (x : V (I3 ic ih iw))
    (hnt : NoTies l ih iw oh ow x) :
    poolFn l ih iw oh ow =ᶠ[𝓝 x] select (idxOf l ih iw oh ow x) ic ih iw oh ow := by
  have hall : ∀ q : I3 ic oh ow, ∀ᶠ x' in 𝓝 x,
      poolFn l ih iw oh ow x' q = select (idxOf l ih iw oh ow x) ic ih iw oh ow x' q := by
    intro q
    obtain ⟨k, li, hk, hli, hin, hmin, huniq⟩ := hnt q
    have hidx : L.get3D [] (idxOf l ih iw oh ow x) q.1.val q.2.1.val q.2.2.val =
        [(q.2.1.val * l.stride.1 + k, q.2.2.val * l.stride.2 + li)] := by
      rw [idxOf_get l hl x _ _ _ q.1.isLt q.2.1.isLt q.2.2.isLt,
        window_unique l (toList3 x) _ _ _ ih iw k li hk hli hin hmin huniq]
    refine (window_eventually l x _ _ _ k li hk hli hin hmin huniq).mono fun x' hx' => ?_
    simp only [poolFn, select, hx', hidx, List.map_cons, List.map_nil, List.sum_cons, List.sum_nil, add_zero]
  exact (Filter.eventually_all.mpr hall).mono fun x' hx' => funext hx'

/-- **the max-pool's transposed Jacobian is the routing of the gradient to the recorded positions**
    (at any input without ties) -/
theorem pool_isVJP (l : Maxpool ℝ) (hl : IsPool l ic ih iw oh ow) (x : V (I3 ic ih iw)) (hnt : NoTies l ih iw oh ow x) :
    IsVJP (poolFn l ih iw oh ow) x (routeV l (idxOf l ih iw oh ow x) ic ih iw oh ow) :=
  (maxpool_isVJP l (idxOf l ih iw oh ow x) ic ih iw oh ow hl.loops
    (fun c h w hc hh hw => idx_in_bounds l hl x c h w hc hh hw) x).congr_of_eventuallyEq
    (pool_eventually_select l hl x hnt)

end MaxpoolLocal
