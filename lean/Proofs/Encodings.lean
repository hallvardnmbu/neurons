-- the model (through `Props.C07`) before any Mathlib module: `1 / x` on `ℝ` in `DenseStack.denseLayer` then elaborates with
-- Mathlib's division; the other way round the later-imported `Scalar.toDiv` is found first (equal by `rfl`, another term)
import Props.C07
import Proofs.Box

/-!
# Vectors as the model's tensors

`vecT`, `matT` encode flat vectors and matrices, `T3`, `T4`, `kernelT` the vectors on an index box (`Proofs/Box.lean`)
as `Tensor ℝ`.  What the layers' `forward` / `backward` do to a tensor before and after their own loops — `entry`,
`Tensor.triple` / `quadruple`, `kernelsOf`, `kernelDims`, the activation and its derivative, the Hadamard product,
`finish` — is computed here on encodings, once for all layer kinds.  The names live in the namespaces of the bridges
that use them: `DenseBridge` (flat), `ConvBridge` (box).
-/

namespace OfFn

theorem zipWith_ofFn {β γ δ : Type} {n : ℕ} (f : β → γ → δ) (a : Fin n → β) (b : Fin n → γ) :
    List.zipWith f (List.ofFn a) (List.ofFn b) = List.ofFn (fun i => f (a i) (b i)) := by
  apply List.ext_getElem
  · simp
  · intro i h1 h2
    simp

theorem map_range_eq_ofFn {β : Type} (n : ℕ) (f : ℕ → β) : (List.range n).map f = List.ofFn (fun i : Fin n => f i) := by
  apply List.ext_getElem
  · simp
  · intro i h1 h2
    simp

theorem getElem?_ofFn_fin {β : Type} {n : ℕ} (f : Fin n → β) (j : Fin n) : (List.ofFn f)[(j : ℕ)]? = some (f j) := by
  rw [List.getElem?_ofFn]
  simp

theorem replicate_eq_ofFn {β : Type} (n : ℕ) (c : β) : List.replicate n c = List.ofFn (fun _ : Fin n => c) :=
  (List.ofFn_const n c).symm

end OfFn

namespace DenseBridge
open VJP Scalar RealScalar

variable {r c : ℕ}

noncomputable def vecT {n : ℕ} (v : Vec n) : Tensor ℝ := ⟨.single n, .single (List.ofFn v)⟩
noncomputable def matT (W : V (Fin r × Fin c)) : Tensor ℝ :=
  ⟨.double r c, .double (List.ofFn fun i => List.ofFn fun j => W (i, j))⟩

theorem flatten_vecT {n : ℕ} (v : Vec n) : (vecT v).flatten = .ok (vecT v) := by
  simp [vecT, Tensor.flatten]

theorem mapAct_vecT (g : ℝ → ℝ) {n : ℕ} (v : Vec n) : Act.mapAct g (vecT v) = .ok (vecT (fun i => g (v i))) := by
  simp only [Act.mapAct, vecT, List.length_ofFn, List.map_ofFn, Function.comp_def]

theorem act_forward_vecT (a : Act) (ha : a ≠ .softmax) {n : ℕ} (v : Vec n) :
    Act.forward a (vecT v) = .ok (vecT (fun i => Act.f a (v i))) := by
  cases a with
  | softmax => exact absurd rfl ha
  | linear => rfl
  | _ => exact mapAct_vecT _ v

theorem act_backward_vecT (a : Act) (ha : a ≠ .softmax) {n : ℕ} (v : Vec n) :
    Act.backward a (vecT v) = .ok (vecT (fun i => Act.df a (v i))) := by
  cases a with
  | softmax => exact absurd rfl ha
  | linear => simp only [Act.backward, Act.df, vecT, Tensor.ones, List.ofFn_const]
  | _ => exact mapAct_vecT _ v

theorem zip1_ofFn (f : ℝ → ℝ → ℝ) {n : ℕ} (a b : Vec n) :
    L.zip1 f (List.ofFn a) (List.ofFn b) = List.ofFn (fun i => f (a i) (b i)) := by
  rw [(L.zip1_spec f _ _ (by simp)).1, OfFn.zipWith_ofFn]

end DenseBridge

namespace ConvBridge
open VJP ConvVJP L Scalar RealScalar

noncomputable def T3 {c h w : ℕ} (v : V (I3 c h w)) : Tensor ℝ := ⟨.triple c h w, .triple (toList3 v)⟩

theorem triple_toList3 {c h w : ℕ} (v : V (I3 c h w)) (hc : 0 < c) (hh : 0 < h) :
    Tensor.triple (toList3 v) = .ok (T3 v) :=
  Tensor.triple_of_dims (toList3_dims v) hc hh

theorem getTriple_T3 {c h w : ℕ} (v : V (I3 c h w)) (s : Shape) : (T3 v).getTriple s = .ok (toList3 v) := rfl

theorem triple_of_get {A : V3 ℝ} {c h w : ℕ} (hA : Dims3 A c h w) (hc : 0 < c) (hh : 0 < h) :
    Tensor.triple A = .ok (T3 (rd3 A : V (I3 c h w))) := by
  rw [Tensor.triple_of_dims hA hc hh, T3, toList3_rd3 hA]

theorem entry_T3 {c h w : ℕ} (v : V (I3 c h w)) (hc : 0 < c) (hh : 0 < h) (s : Shape) :
    entry (T3 v) s = .ok (toList3 v, h, w) := by
  obtain ⟨r, m, rest, he, h1, h2⟩ := dims3_cons (toList3_dims v) hc hh
  unfold entry T3
  simp only [he, h1, h2]

theorem map3_toList3 {c h w : ℕ} (g : ℝ → ℝ) (v : V (I3 c h w)) :
    L.map3 g (toList3 v) = toList3 (fun i => g (v i)) := by
  simp [L.map3, toList3, List.map_ofFn, Function.comp_def]

theorem mapAct_T3 (g : ℝ → ℝ) {c h w : ℕ} (v : V (I3 c h w)) (hc : 0 < c) (hh : 0 < h) :
    Act.mapAct g (T3 v) = .ok (T3 (fun i => g (v i))) := by
  rw [T3, C07.mapAct_triple_eq g (toList3_dims v) hc hh, map3_toList3, T3]

theorem act_forward_T3 (a : Act) (ha : a ≠ .softmax) {c h w : ℕ} (v : V (I3 c h w)) (hc : 0 < c) (hh : 0 < h) :
    Act.forward a (T3 v) = .ok (T3 (fun i => Act.f a (v i))) := by
  cases a with
  | softmax => exact absurd rfl ha
  | linear => rfl
  | _ => exact mapAct_T3 _ v hc hh

theorem replicate3_toList3 (c h w : ℕ) (r : ℝ) : L.replicate3 c h w r = toList3 (fun _ : I3 c h w => r) := by
  simp [L.replicate3, L.replicate2, toList3, List.ofFn_const]

theorem act_backward_T3 (a : Act) (ha : a ≠ .softmax) {c h w : ℕ} (v : V (I3 c h w)) (hc : 0 < c) (hh : 0 < h) :
    Act.backward a (T3 v) = .ok (T3 (fun i => Act.df a (v i))) := by
  cases a with
  | softmax => exact absurd rfl ha
  | linear => simp only [Act.backward, Act.df, T3, Tensor.ones, replicate3_toList3]
  | _ => exact mapAct_T3 _ v hc hh

theorem hadamard3d_toList3 {c h w : ℕ} (a b : V (I3 c h w)) (s : ℝ) :
    Tensor.hadamard3d (toList3 a) (toList3 b) s = toList3 (fun i => a i * b i * s) := by
  simp only [Tensor.hadamard3d, toList3, OfFn.zipWith_ofFn]

noncomputable def T4 {f c h w : ℕ} (K : V (I4 f c h w)) : Tensor ℝ := ⟨.quadruple f c h w, .quadruple (toList4 K)⟩

theorem quadruple_of_get {A : V4 ℝ} {k c h w : ℕ} (hA : Dims4 A k c h w) (hk : 0 < k) (hc : 0 < c) (hh : 0 < h) :
    Tensor.quadruple A = .ok (T4 (rd4 A : V (I4 k c h w))) := by
  rw [Tensor.quadruple_of_dims hA hk hc hh, T4, toList4_rd4 hA]

/-- the kernels of an `I4`-indexed vector as the layer stores them: one `c × h × w` tensor per filter -/
noncomputable def kernelT {f c h w : ℕ} (K : V (I4 f c h w)) : List (Tensor ℝ) :=
  (toList4 K).map (fun k => ⟨.triple c h w, .triple k⟩)

theorem kernelsOf_kernelT {f c h w : ℕ} (K : V (I4 f c h w)) : kernelsOf (kernelT K) = .ok (toList4 K) := by
  unfold kernelsOf kernelT
  rw [L.mapM'_map_ok Tensor.asTriple _ (fun _ => rfl)]

/-- with `f, c, h ≥ 1` there is a first row of a first matrix of a first tensor (what `kernelDims` and
    `Tensor::quadruple` read the extents off) -/
theorem kernelDims_toList4 {f c h w : ℕ} (K : V (I4 f c h w)) (hf : 0 < f) (hc : 0 < c) (hh : 0 < h) :
    kernelDims (toList4 K) = .ok (f, c, h, w) := by
  obtain ⟨r, m, cs, rest, he, h1, h2, h3⟩ := dims4_cons (toList4_dims K) hf hc hh
  have hlen := (toList4_dims K).1
  rw [he] at hlen ⊢
  simp only [kernelDims, hlen, h1, h2, h3]

/-- the tail of every `forward` outside training: flatten or not -/
theorem finish_eval {α : Type} [Scalar α] (post : Tensor α) (d : Option α) (fl : Bool) :
    finish post false d fl = if fl then post.flatten else .ok post := rfl

end ConvBridge
