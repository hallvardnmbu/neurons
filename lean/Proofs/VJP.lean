import Mathlib.Analysis.Calculus.Deriv.Comp
import Mathlib.Analysis.Calculus.Deriv.Pi
import Mathlib.Analysis.Calculus.FDeriv.Add
import Mathlib.Topology.Algebra.Module.FiniteDimension

/-!
# Reverse-mode differentiation is correct: vector–Jacobian products compose (C01, C16)

`IsVJP f x bwd` says `f` is (Fréchet-)differentiable at `x` and `bwd g` is the transposed Jacobian
applied to `g`.  `IsGrad ℓ y g` says the scalar function `ℓ` is differentiable at `y` with gradient
vector `g`.  The chain rule gives: walking the layers in reverse and handing each layer's `bwd` the
gradient produced by the layer after it yields the gradient of the composed objective — for any depth
(`Net.vjp`; `GNet.vjp` for index types other than `Fin n`), and every coordinate of that gradient is the
partial derivative (`IsGrad.partial`).
-/

open BigOperators

namespace VJP

/-- real vectors indexed by a finite type (`Fin n` for activations, `Fin r × Fin c` for a weight
    matrix, …) -/
abbrev V (ι : Type) := ι → ℝ
abbrev Vec (n : ℕ) := V (Fin n)

variable {ι κ μ : Type} [Fintype ι] [Fintype κ] [Fintype μ]

def dot (a b : V ι) : ℝ := ∑ i, a i * b i

/-! `dot` is Mathlib's `dotProduct` at `ℝ`; its lemmas are restated for the head symbol `dot`, which is what
`rw` and `simp only` see in the statements built on `IsVJP`. -/

theorem dot_comm (a b : V ι) : dot a b = dot b a := dotProduct_comm a b

theorem dot_add_left (a b c : V ι) : dot (a + b) c = dot a c + dot b c := add_dotProduct a b c

theorem dot_add_right (a b c : V ι) : dot a (b + c) = dot a b + dot a c := dotProduct_add a b c

theorem dot_smul_right (r : ℝ) (a b : V ι) : dot a (r • b) = r * dot a b := dotProduct_smul r a b

theorem single_dot [DecidableEq ι] (j : ι) (g : V ι) : dot (Pi.single j 1) g = g j := single_one_dotProduct j g

theorem dot_single [DecidableEq ι] (g : V ι) (j : ι) : dot g (Pi.single j 1) = g j := dotProduct_single_one g j

theorem ext_dot [DecidableEq ι] {a b : V ι} (h : ∀ v, dot a v = dot b v) : a = b := by
  funext i
  have := h (Pi.single i 1)
  rwa [dot_single, dot_single] at this

def IsVJP (f : V ι → V κ) (x : V ι) (bwd : V κ → V ι) : Prop :=
  ∃ f' : V ι →L[ℝ] V κ, HasFDerivAt f f' x ∧ ∀ g v, dot (bwd g) v = dot g (f' v)

def IsGrad (ℓ : V κ → ℝ) (y : V κ) (g : V κ) : Prop :=
  ∃ ℓ' : V κ →L[ℝ] ℝ, HasFDerivAt ℓ ℓ' y ∧ ∀ v, ℓ' v = dot g v

theorem IsVJP.comp {f : V ι → V κ} {h : V κ → V μ} {x : V ι}
    {bf : V κ → V ι} {bh : V μ → V κ} (hf : IsVJP f x bf) (hh : IsVJP h (f x) bh) :
    IsVJP (h ∘ f) x (bf ∘ bh) := by
  obtain ⟨f', hf', af⟩ := hf
  obtain ⟨h', hh', ah⟩ := hh
  refine ⟨h'.comp f', hh'.comp x hf', ?_⟩
  intro g v
  simp only [Function.comp_apply, ContinuousLinearMap.comp_apply]
  rw [af, ah]

/-- the gradient handed to a layer, pushed through its `bwd`, is the gradient with respect to the
    layer's input -/
theorem IsGrad.comp_vjp {f : V ι → V κ} {ℓ : V κ → ℝ} {x : V ι}
    {bf : V κ → V ι} {g : V κ} (hf : IsVJP f x bf) (hl : IsGrad ℓ (f x) g) :
    IsGrad (ℓ ∘ f) x (bf g) := by
  obtain ⟨f', hf', af⟩ := hf
  obtain ⟨ℓ', hl', al⟩ := hl
  refine ⟨ℓ'.comp f', hl'.comp x hf', ?_⟩
  intro v
  simp only [ContinuousLinearMap.comp_apply]
  rw [al, af]

theorem IsGrad.partial [DecidableEq ι] {ℓ : V ι → ℝ} {x : V ι} {g : V ι} (h : IsGrad ℓ x g) (j : ι) :
    HasDerivAt (fun t => ℓ (Function.update x j t)) (g j) (x j) := by
  obtain ⟨ℓ', hl', al⟩ := h
  have hu : HasDerivAt (Function.update x j) (Pi.single j (1 : ℝ)) (x j) := hasDerivAt_update x j (x j)
  have hx : Function.update x j (x j) = x := Function.update_eq_self j x
  rw [← hx] at hl'
  have := hl'.comp_hasDerivAt (x j) hu
  rw [al, dot_single] at this
  exact this

theorem isVJP_id (x : V ι) : IsVJP (fun y : V ι => y) x (fun g => g) :=
  ⟨ContinuousLinearMap.id ℝ _, hasFDerivAt_id x, fun _ _ => rfl⟩

theorem isVJP_const (x : V ι) (c : V κ) : IsVJP (fun _ : V ι => c) x (fun _ => 0) := by
  refine ⟨0, hasFDerivAt_const c x, fun g v => ?_⟩
  simp only [dot, Pi.zero_apply, zero_mul, zero_apply, mul_zero, Finset.sum_const_zero]

theorem isVJP_zero (x : V ι) : IsVJP (fun _ : V ι => (0 : V κ)) x (fun _ => 0) :=
  isVJP_const x 0

theorem IsVJP.add_const {f : V ι → V κ} {x : V ι} {bf : V κ → V ι} (hf : IsVJP f x bf) (c : V κ) :
    IsVJP (fun y => f y + c) x bf := by
  obtain ⟨f', hf', af⟩ := hf
  exact ⟨f', hf'.add_const c, af⟩

theorem IsVJP.congr_of_eventuallyEq {f h : V ι → V κ} {x : V ι} {bf : V κ → V ι} (hf : IsVJP f x bf)
    (hh : h =ᶠ[nhds x] f) : IsVJP h x bf := by
  obtain ⟨f', hf', af⟩ := hf
  exact ⟨f', hf'.congr_of_eventuallyEq hh, af⟩

theorem IsVJP.add {f h : V ι → V κ} {x : V ι} {bf bh : V κ → V ι} (hf : IsVJP f x bf) (hh : IsVJP h x bh) :
    IsVJP (fun y => f y + h y) x (fun g => bf g + bh g) := by
  obtain ⟨f', hf', af⟩ := hf
  obtain ⟨h', hh', ah⟩ := hh
  refine ⟨f' + h', hf'.add hh', ?_⟩
  intro g v
  rw [dot_add_left, af, ah, FunLike.coe_add, Pi.add_apply, dot_add_right]

/-- **an additive skip connection around a block `f`**: the source receives the gradient that came
    back through the block *plus* the gradient with respect to the input the target processed -/
theorem IsVJP.add_skip {f : V ι → V ι} {x : V ι} {bf : V ι → V ι} (hf : IsVJP f x bf) :
    IsVJP (fun y => f y + y) x (fun g => bf g + g) :=
  IsVJP.add hf (isVJP_id x)

/-- **a map that has an adjoint for `dot` is linear, hence its own derivative, and the adjoint is its
    transposed Jacobian** -/
theorem IsVJP.of_adjoint (f : V ι → V κ) (bwd : V κ → V ι) (h : ∀ g v, dot (bwd g) v = dot g (f v)) (x : V ι) :
    IsVJP f x bwd := by
  classical
  -- every coordinate of `f v` is the inner product of `v` with a fixed vector
  have hk : ∀ v k, f v k = dot (bwd (Pi.single k 1)) v := fun v k => by rw [h, single_dot]
  let f' : V ι →ₗ[ℝ] V κ :=
    { toFun := f
      map_add' := fun a b => by funext k; simp only [Pi.add_apply, hk, dot_add_right]
      map_smul' := fun r a => by funext k; simp only [Pi.smul_apply, smul_eq_mul, RingHom.id_apply, hk, dot_smul_right] }
  let F := LinearMap.toContinuousLinearMap f'
  exact ⟨F, F.hasFDerivAt, h⟩

/-- re-indexing along a bijection (flatten / reshape keep the row-major sequence: they are re-indexings):
    the gradient is re-indexed back -/
theorem isVJP_reindex (e : κ ≃ ι) (x : V ι) : IsVJP (fun y : V ι => fun k => y (e k)) x (fun g => fun i => g (e.symm i)) :=
  IsVJP.of_adjoint _ _ (fun g v => by
    simp only [dot]
    rw [← Equiv.sum_comp e]
    simp only [Equiv.symm_apply_apply]) x

theorem IsVJP.map_add {f : V ι → V κ} {x : V ι} {b : V κ → V ι} (h : IsVJP f x b) (g₁ g₂ : V κ) :
    b (g₁ + g₂) = b g₁ + b g₂ := by
  classical
  obtain ⟨f', _, af⟩ := h
  apply ext_dot
  intro v
  rw [dot_add_left, af, af, af, dot_add_left]

theorem IsVJP.map_zero {f : V ι → V κ} {x : V ι} {b : V κ → V ι} (h : IsVJP f x b) : b 0 = 0 :=
  (AddMonoidHom.mk' b h.map_add).map_zero

theorem IsVJP.map_sum {f : V ι → V κ} {x : V ι} {b : V κ → V ι} (h : IsVJP f x b)
    {α : Type} (s : Finset α) (F : α → V κ) : b (∑ t ∈ s, F t) = ∑ t ∈ s, b (F t) :=
  _root_.map_sum (AddMonoidHom.mk' b h.map_add) F s

inductive Net : ℕ → ℕ → Type
  | nil (n : ℕ) : Net n n
  | cons {n m k : ℕ} (f : Vec n → Vec m) (bwd : Vec n → Vec m → Vec n) (rest : Net m k) : Net n k

def Net.fwd : {n k : ℕ} → Net n k → Vec n → Vec k
  | _, _, .nil _, x => x
  | _, _, .cons f _ rest, x => rest.fwd (f x)

def Net.bwd : {n k : ℕ} → Net n k → Vec n → Vec k → Vec n
  | _, _, .nil _, _, g => g
  | _, _, .cons f b rest, x, g => b x (rest.bwd (f x) g)

def Net.Ok : {n k : ℕ} → Net n k → Vec n → Prop
  | _, _, .nil _, _ => True
  | _, _, .cons f b rest, x => IsVJP f x (b x) ∧ rest.Ok (f x)

theorem Net.vjp : ∀ {n k : ℕ} (net : Net n k) (x : Vec n), net.Ok x → IsVJP net.fwd x (net.bwd x)
  | _, _, .nil _, x, _ => isVJP_id x
  | _, _, .cons f _ rest, x, h => IsVJP.comp h.1 (Net.vjp rest (f x) h.2)

theorem Net.grad {n k : ℕ} (net : Net n k) (x : Vec n) (h : net.Ok x) (ℓ : Vec k → ℝ) (g : Vec k)
    (hl : IsGrad ℓ (net.fwd x) g) : IsGrad (ℓ ∘ net.fwd) x (net.bwd x g) :=
  IsGrad.comp_vjp (Net.vjp net x h) hl

/-- **a network with an additive skip connection around its middle part** (`head`, then `mid` with
    the skip `y ↦ mid y + y`, then `tail`; any depths): the reverse walk in which the skip's source
    adds the gradient of the input the target processed to the gradient coming back through `mid`
    computes the transposed Jacobian of the whole network -/
theorem Net.vjp_with_skip {n m k : ℕ} (head : Net n m) (mid : Net m m) (tail : Net m k) (x : Vec n)
    (h1 : head.Ok x) (h2 : mid.Ok (head.fwd x)) (h3 : tail.Ok (mid.fwd (head.fwd x) + head.fwd x)) :
    IsVJP (fun z => tail.fwd (mid.fwd (head.fwd z) + head.fwd z)) x
      (fun g =>
        let y := head.fwd x
        let δ := tail.bwd (mid.fwd y + y) g      -- gradient w.r.t. the input the skip's target processed
        head.bwd x (mid.bwd y δ + δ)) := by
  -- composed first, compared with the statement (up to unfolding `∘`) afterwards
  have h := IsVJP.comp (IsVJP.comp (Net.vjp head x h1) (IsVJP.add_skip (Net.vjp mid (head.fwd x) h2))) (Net.vjp tail _ h3)
  exact h

/-! ### any depth, any index types (spatial layers: `Fin c × Fin h × Fin w`, kernels, …) -/

structure Idx where
  T : Type
  [ft : Fintype T]

instance (a : Idx) : Fintype a.T := a.ft

/-- `Net` is the case of index types `Fin n`.  `LayerChain.Chain` and everything built on it use `GNet`; a dense
    `Stack`, whose functions are a `Net`, is brought over by `ChainLinks.stack_gnet_fwd` / `stack_gnet_bwd`. -/
inductive GNet : Idx → Idx → Type 1
  | nil (a : Idx) : GNet a a
  | cons {a b c : Idx} (f : V a.T → V b.T) (bwd : V a.T → V b.T → V a.T) (rest : GNet b c) : GNet a c

def GNet.fwd : {a c : Idx} → GNet a c → V a.T → V c.T
  | _, _, .nil _, x => x
  | _, _, .cons f _ rest, x => rest.fwd (f x)

def GNet.bwd : {a c : Idx} → GNet a c → V a.T → V c.T → V a.T
  | _, _, .nil _, _, g => g
  | _, _, .cons f b rest, x, g => b x (rest.bwd (f x) g)

def GNet.Ok : {a c : Idx} → GNet a c → V a.T → Prop
  | _, _, .nil _, _ => True
  | _, _, .cons f b rest, x => IsVJP f x (b x) ∧ rest.Ok (f x)

theorem GNet.vjp : ∀ {a c : Idx} (net : GNet a c) (x : V a.T), net.Ok x → IsVJP net.fwd x (net.bwd x)
  | _, _, .nil _, x, _ => isVJP_id x
  | _, _, .cons f _ rest, x, h => IsVJP.comp h.1 (GNet.vjp rest (f x) h.2)

theorem GNet.grad {a c : Idx} (net : GNet a c) (x : V a.T) (h : net.Ok x) (ℓ : V c.T → ℝ) (g : V c.T)
    (hl : IsGrad ℓ (net.fwd x) g) : IsGrad (ℓ ∘ net.fwd) x (net.bwd x g) :=
  IsGrad.comp_vjp (GNet.vjp net x h) hl

end VJP

namespace ConvVJP
open VJP

theorem isVJP_elementwise {ι κ : Type} [Fintype ι] [Fintype κ] (P : V ι → V κ) (x : V ι) (bP : V κ → V ι)
    (a a' : ℝ → ℝ) (hP : IsVJP P x bP) (ha : ∀ i, HasDerivAt a (a' (P x i)) (P x i)) :
    IsVJP (fun y => fun i => a (P y i)) x (fun g => bP (fun i => a' (P x i) * g i)) := by
  have hE : IsVJP (fun y : V κ => fun i => a (y i)) (P x) (fun g => fun i => a' (P x i) * g i) := by
    refine ⟨ContinuousLinearMap.pi (fun i => (a' (P x i)) • (ContinuousLinearMap.proj (R := ℝ) (φ := fun _ : κ => ℝ) i)), ?_, ?_⟩
    · exact hasFDerivAt_pi.mpr fun i => (ha i).comp_hasFDerivAt (P x) (hasFDerivAt_apply i (P x))
    · intro g v
      simp only [dot, ContinuousLinearMap.pi_apply, FunLike.coe_smul, Pi.smul_apply, ContinuousLinearMap.proj_apply, smul_eq_mul]
      apply Finset.sum_congr rfl; intro i _
      ring
  exact IsVJP.comp hP hE

end ConvVJP
