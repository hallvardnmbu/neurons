import Proofs.Zip

/-!
# The n-ary in-place zip (`mean_inplace`, the optimizers' `nzip`) at every rank

`meanG_spec`: if the per-cell combination succeeds with value `S`, the n-ary zip of equally long
operands is the position-wise `S` (`spec`).  Instantiated level by level (`spec1` … `spec4`) this gives the element formula
at ranks 1–4: position `(i, j, …)` of the result is `f self[i][j]… [o[i][j]… | o ∈ others]`.
-/

namespace MeanG
open Tensor

theorem heads_spec {γ : Type} (d : γ) (os : List (List γ)) (h : ∀ o ∈ os, o ≠ []) :
    heads os = some (os.map (fun o => o.getD 0 d)) := by
  induction os with
  | nil => rfl
  | cons o os ih =>
    have ho := h o (List.mem_cons_self ..)
    cases o with
    | nil => exact absurd rfl ho
    | cons x xs =>
      simp only [heads, ih (fun o ho => h o (List.mem_cons_of_mem _ ho)), List.map_cons, List.getD_cons_zero]

def spec {γ : Type} (d : γ) (S : γ → List γ → γ) (self : List γ) (others : List (List γ)) : List γ :=
  (List.range self.length).map (fun i => S (self.getD i d) (others.map (fun o => o.getD i d)))

theorem getD_tail {γ : Type} (d : γ) (o : List γ) (i : Nat) : o.tail.getD i d = o.getD (i + 1) d := by
  cases o <;> rfl

theorem spec_cons {γ : Type} (d : γ) (S : γ → List γ → γ) (v : γ) (vs : List γ) (others : List (List γ)) :
    spec d S (v :: vs) others = S v (others.map (fun o => o.getD 0 d)) :: spec d S vs (others.map List.tail) := by
  simp only [spec, List.length_cons, List.range_succ_eq_map, List.map_cons, List.map_map, List.getD_cons_zero,
    Function.comp_def, List.getD_cons_succ, getD_tail]

theorem meanG_spec {γ : Type} (d : γ) (cell : γ → List γ → Except Err γ) (S : γ → List γ → γ) :
    ∀ (self : List γ) (others : List (List γ)),
    (∀ o ∈ others, o.length = self.length) →
    (∀ i, i < self.length → cell (self.getD i d) (others.map (fun o => o.getD i d)) =
      .ok (S (self.getD i d) (others.map (fun o => o.getD i d)))) →
    meanG cell self others = .ok (spec d S self others) := by
  intro self
  induction self with
  | nil => intro others _ _; rfl
  | cons v vs ih =>
    intro others h hcell
    have hne : ∀ o ∈ others, o ≠ [] := fun o ho e => by have := h o ho; rw [e] at this; cases this
    have h0 := hcell 0 (Nat.succ_pos _)
    have hrec := ih (others.map List.tail)
      (fun o ho => by obtain ⟨o', h1, rfl⟩ := List.mem_map.mp ho; rw [List.length_tail, h o' h1]; rfl)
      (fun i hi => by
        have := hcell (i + 1) (Nat.succ_lt_succ hi)
        simpa only [List.getD_cons_succ, List.map_map, Function.comp_def, getD_tail] using this)
    rw [List.getD_cons_zero] at h0
    simp only [meanG, heads_spec d others hne, h0, hrec, spec_cons]

theorem length_spec {γ : Type} (d : γ) (S : γ → List γ → γ) (self : List γ) (others : List (List γ)) :
    (spec d S self others).length = self.length := by rw [spec, List.length_map, List.length_range]

theorem getD_spec {γ : Type} (d : γ) (S : γ → List γ → γ) (self : List γ) (others : List (List γ)) (i : Nat) (hi : i < self.length) :
    (spec d S self others).getD i d = S (self.getD i d) (others.map (fun o => o.getD i d)) := by
  rw [spec, List.getD_eq_getElem?_getD, List.getElem?_map, List.getElem?_range hi]; rfl

variable {α : Type} [Scalar α]

def spec1 (f : α → List α → α) : V1 α → List (V1 α) → V1 α := spec 0 f
def spec2 (f : α → List α → α) : V2 α → List (V2 α) → V2 α := spec [] (spec1 f)
def spec3 (f : α → List α → α) : V3 α → List (V3 α) → V3 α := spec [] (spec2 f)
def spec4 (f : α → List α → α) : V4 α → List (V4 α) → V4 α := spec [] (spec3 f)

theorem nzip1_spec (f : α → List α → α) (self : V1 α) (others : List (V1 α))
    (h : ∀ o ∈ others, o.length = self.length) : nzip1 f self others = .ok (spec1 f self others) :=
  meanG_spec 0 _ f self others h (fun _ _ => rfl)

theorem meanG_level {γ : Type} (d : γ) (P : γ → Prop) (cell : γ → List γ → Except Err γ) (S : γ → List γ → γ)
    (hc : ∀ x xs, P x → (∀ y ∈ xs, P y) → cell x xs = .ok (S x xs))
    {self : List γ} {others : List (List γ)} {n : Nat}
    (hs : self.length = n ∧ ∀ x ∈ self, P x) (ho : ∀ o ∈ others, o.length = n ∧ ∀ x ∈ o, P x) :
    meanG cell self others = .ok (spec d S self others) := by
  apply meanG_spec d cell S self others (fun o hom => by rw [(ho o hom).1, hs.1])
  intro i hi
  rw [hs.1] at hi
  apply hc _ _ (L.dims_getD d hs hi)
  intro y hy
  obtain ⟨o, hom, rfl⟩ := List.mem_map.mp hy
  exact L.dims_getD d (ho o hom) hi

theorem nzip2_spec (f : α → List α → α) {self : V2 α} {others : List (V2 α)} {hh ww : Nat}
    (hs : L.Dims2 self hh ww) (ho : ∀ o ∈ others, L.Dims2 o hh ww) :
    nzip2 f self others = .ok (spec2 f self others) :=
  meanG_level [] (·.length = ww) _ (spec1 f)
    (fun x xs hx hxs => nzip1_spec f x xs (fun o ho => by rw [hxs o ho, hx])) hs ho

theorem nzip3_spec (f : α → List α → α) {self : V3 α} {others : List (V3 α)} {c hh ww : Nat}
    (hs : L.Dims3 self c hh ww) (ho : ∀ o ∈ others, L.Dims3 o c hh ww) :
    nzip3 f self others = .ok (spec3 f self others) :=
  meanG_level [] (L.Dims2 · hh ww) _ (spec2 f) (fun _ _ => nzip2_spec f) hs ho

theorem nzip4_spec (f : α → List α → α) {self : V4 α} {others : List (V4 α)} {k c hh ww : Nat}
    (hs : L.Dims4 self k c hh ww) (ho : ∀ o ∈ others, L.Dims4 o k c hh ww) :
    nzip4 f self others = .ok (spec4 f self others) :=
  meanG_level [] (L.Dims3 · c hh ww) _ (spec3 f) (fun _ _ => nzip3_spec f) hs ho

theorem spec1_get (f : α → List α → α) (self : V1 α) (others : List (V1 α)) (j : Nat) (hj : j < self.length) :
    (spec1 f self others).getD j 0 = f (self.getD j 0) (others.map (fun o => o.getD j 0)) :=
  getD_spec 0 f self others j hj

theorem getD_spec_level {γ δ : Type} (d : γ) (P : γ → Prop) (S : γ → List γ → γ) (rd : γ → δ) (f : δ → List δ → δ)
    (hS : ∀ x xs, P x → rd (S x xs) = f (rd x) (xs.map rd))
    {self : List γ} (others : List (List γ)) {n i : Nat} (hs : self.length = n ∧ ∀ x ∈ self, P x) (hi : i < n) :
    rd ((spec d S self others).getD i d) = f (rd (self.getD i d)) (others.map (fun o => rd (o.getD i d))) := by
  rw [getD_spec d S self others i (hs.1 ▸ hi), hS _ _ (L.dims_getD d hs hi), List.map_map]
  rfl

theorem spec2_get (f : α → List α → α) {self : V2 α} (others : List (V2 α)) {hh ww i j : Nat}
    (hs : L.Dims2 self hh ww) (hi : i < hh) (hj : j < ww) :
    ((spec2 f self others).getD i []).getD j 0 =
      f ((self.getD i []).getD j 0) (others.map (fun o => (o.getD i []).getD j 0)) :=
  getD_spec_level [] (·.length = ww) (spec1 f) (·.getD j 0) f (fun x xs hx => spec1_get f x xs j (hx ▸ hj))
    others hs hi

theorem spec3_get (f : α → List α → α) {self : V3 α} (others : List (V3 α)) {c hh ww a i j : Nat}
    (hs : L.Dims3 self c hh ww) (ha : a < c) (hi : i < hh) (hj : j < ww) :
    (((spec3 f self others).getD a []).getD i []).getD j 0 =
      f (((self.getD a []).getD i []).getD j 0) (others.map (fun o => ((o.getD a []).getD i []).getD j 0)) :=
  getD_spec_level [] (L.Dims2 · hh ww) (spec2 f) (fun m => (m.getD i []).getD j 0) f
    (fun _ xs hx => spec2_get f xs hx hi hj) others hs ha

theorem spec4_get (f : α → List α → α) {self : V4 α} (others : List (V4 α)) {k c hh ww b a i j : Nat}
    (hs : L.Dims4 self k c hh ww) (hb : b < k) (ha : a < c) (hi : i < hh) (hj : j < ww) :
    ((((spec4 f self others).getD b []).getD a []).getD i []).getD j 0 =
      f ((((self.getD b []).getD a []).getD i []).getD j 0)
        (others.map (fun o => (((o.getD b []).getD a []).getD i []).getD j 0)) :=
  getD_spec_level [] (L.Dims3 · c hh ww) (spec3 f) (fun t => ((t.getD a []).getD i []).getD j 0) f
    (fun _ xs hx => spec3_get f xs hx ha hi hj) others hs hb

end MeanG
