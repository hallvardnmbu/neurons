import Proofs.SkipPad

/-!
# Perceptrons of arbitrary widths with any table of additive skip connections (C16)

Slots are the widths `0 … W`; a dense layer from width `k₁` to width `k₂` is a link of the universal type
`Σ k : Fin (W+1), Fin k`; two positions can be connected when their widths agree.
-/

namespace SkipMLP
open Network Scalar VJP LayerChain SkipWalk SkipNet SkipPad ChainLinks DenseStack DenseBridge

variable (W : ℕ)

abbrev TW : Fin (W + 1) → Type := fun k => Fin k.val

structure DLayer where
  k₁ : Fin (W + 1)
  k₂ : Fin (W + 1)
  a : Act
  Wt : V (Fin k₂.val × Fin k₁.val)
  b : Vec k₂.val

variable {W}

def DLayer.Valid (d : DLayer W) : Prop := d.a ≠ .softmax ∧ 0 < d.k₁.val ∧ 0 < d.k₂.val

set_option linter.unusedVariables false in
noncomputable def encW : (k : Fin (W + 1)) → Enc ⟨TW W k⟩ := fun k v => vecT v

noncomputable def dlink (d : DLayer W) : Link (UIdx (TW W)) :=
  liftLink (TW W) d.k₁ d.k₂ (.dense (denseLayer d.a d.Wt d.b)) (denseFn (Act.f d.a) d.Wt d.b) (denseBwd d.a d.Wt d.b)
    (fun x => vecT (densePre d.Wt d.b x)) (fun _ => .none) (denseWG d.a d.Wt d.b)

/-- the width at position `j`: the input width of layer `j`, the output width of the last layer at the end -/
def slotAt (ds : List (DLayer W)) (j : Nat) : Fin (W + 1) :=
  match ds[j]? with
  | some d => d.k₁
  | none => match ds.getLast? with
    | some d => d.k₂
    | none => 0

noncomputable def emW (ds : List (DLayer W)) (j : Nat) : Enc (UIdx (TW W)) := encAt (TW W) encW (slotAt ds j)

def Fits (ds : List (DLayer W)) : Prop := ∀ j d d', ds[j]? = some d → ds[j + 1]? = some d' → d'.k₁ = d.k₂

theorem slotAt_succ (ds : List (DLayer W)) (hf : Fits ds) (j : Nat) (d : DLayer W) (hd : ds[j]? = some d) :
    slotAt ds (j + 1) = d.k₂ := by
  unfold slotAt
  cases hn : ds[j + 1]? with
  | some d' => exact hf j d d' hd hn
  | none => simp only [L.getLast?_of_succ_none hd hn]

theorem dlink_real (ds : List (DLayer W)) (hf : Fits ds) (hv : ∀ d ∈ ds, d.Valid) (p : Nat → V (Σ k, TW W k)) :
    ∀ j (lk : Link (UIdx (TW W))), (ds.map dlink)[j]? = some lk → lk.Real (emW ds j) (emW ds (j + 1)) (p j) := by
  refine L.forall_getElem?_map fun j d hd => ?_
  have hdv := hv d (List.mem_of_getElem? hd)
  have h0 : slotAt ds j = d.k₁ := by simp only [slotAt, hd]
  unfold emW
  rw [h0, slotAt_succ ds hf j d hd]
  obtain ⟨r1, r2⟩ := real_dense (denseLayer d.a d.Wt d.b) d.a d.Wt d.b (denseLayer_isDense d.a d.Wt d.b) hdv.1 hdv.2.2 hdv.2.1
    (proj (TW W) d.k₁ (p j))
  exact liftLink_real (TW W) encW d.k₁ d.k₂ _ _ _ _ _ _ (p j) r1 r2

theorem dlink_vjp (ds : List (DLayer W)) (hv : ∀ d ∈ ds, d.Valid) (p : Nat → V (Σ k, TW W k))
    (hk : ∀ (j : Nat) d, ds[j]? = some d → ∀ i, NoKink d.a (densePre d.Wt d.b (proj (TW W) d.k₁ (p j)) i)) :
    ∀ j (lk : Link (UIdx (TW W))), (ds.map dlink)[j]? = some lk → IsVJP lk.f (p j) (lk.b (p j)) :=
  L.forall_getElem?_map fun j d hd =>
    isVJP_lift (TW W) d.k₁ d.k₂ _ _ (p j) (vjp_dense d.a d.Wt d.b (hv d (List.mem_of_getElem? hd)).1 _ (hk j d hd))

theorem compat_W (ds : List (DLayer W)) (tbl : List (Nat × Nat)) (hw : ∀ e ∈ tbl, slotAt ds e.1 = slotAt ds e.2) :
    ∀ t s, Assoc.find? tbl t = some s → Compat (emW ds t) (emW ds s) := by
  intro t s hts
  unfold emW
  rw [hw (t, s) (Assoc.mem_of_find?_eq_some hts)]
  exact compat_same (TW W) encW _ (encAdd_vec _)

end SkipMLP
