import Proofs.Basics

/-!
# Loop connections: the recorded runs against the plain list of their outputs (`loopRuns_outputs`), and the
merge of the runs into the trace (`mergeFold_last`)

In front of them what a plain layer list computes (`C17.rangeFinal`) and the facts about the fold `runRange` makes
over a range of layers (`rangeFold_*`), which also serve the plain forward pass (Proofs/Walk.lean).
-/

/-! `rangeFinal ls x` is the value the fold of `runRange` threads.  In namespace `C17`, whose theorems about the
unrolled range are stated with it; without skip and loop connections `predict` is this
(`C02.predict_is_composition`). -/

namespace C17
open Network Scalar

variable {α : Type} [Scalar α]

def finalOf (r : Except Err (List (Tensor α) × List (Tensor α) × List (Recorded α) × Tensor α)) : Except Err (Tensor α) :=
  match r with
  | .error e => .error e
  | .ok (_, _, _, y) => .ok y

def rangeFinal (ls : List (Layer α)) (x : Tensor α) : Except Err (Tensor α) :=
  finalOf (ls.foldl rangeStep (.ok ([], [], [], x)))

end C17

namespace LoopSpec
open Network Scalar

variable {α : Type} [Scalar α]

theorem rangeFold_error (e : Err) (ls : List (Layer α)) :
    ls.foldl rangeStep (.error e : Except Err (List (Tensor α) × List (Tensor α) × List (Recorded α) × Tensor α)) = .error e :=
  L.foldl_error fun _ _ => rfl

theorem rangeFold_prefix (ls : List (Layer α)) (a b : List (Tensor α)) (c : List (Recorded α)) (x : Tensor α) :
    ls.foldl rangeStep (.ok (a, b, c, x)) =
      match ls.foldl rangeStep (.ok ([], [], [], x)) with
      | .error e => .error e
      | .ok (p, q, r, y) => .ok (a ++ p, b ++ q, c ++ r, y) := by
  -- prefixing what is recorded commutes with every step, hence with the fold
  refine Eq.trans (by simp only [List.append_nil]) (List.foldl_hom (g₁ := rangeStep) (g₂ := rangeStep) (init := .ok ([], [], [], x))
    (fun s => match s with
      | .error e => .error e
      | .ok (p, q, r, y) => .ok (a ++ p, b ++ q, c ++ r, y)) (fun s l => ?_))
  cases s with
  | error e => rfl
  | ok st =>
    simp only [rangeStep]
    cases layerForward l st.2.2.2 with
    | error e => rfl
    | ok r => simp only [List.append_assoc]

theorem rangeFold_spec (ls : List (Layer α)) (pres posts : List (Tensor α)) (recs : List (Recorded α)) (x : Tensor α)
    (pres' posts' : List (Tensor α)) (recs' : List (Recorded α)) (x' : Tensor α)
    (h : ls.foldl rangeStep (.ok (pres, posts, recs, x)) = .ok (pres', posts', recs', x')) :
    posts'.length = posts.length + ls.length ∧ (ls ≠ [] → posts'.getLast? = some x') := by
  induction ls generalizing pres posts recs x with
  | nil => cases h; simp
  | cons l ls ih =>
    simp only [List.foldl_cons, rangeStep] at h
    cases hf : layerForward l x with
    | error e => rw [hf, rangeFold_error] at h; cases h
    | ok r =>
      rw [hf] at h
      obtain ⟨hlen, hlast⟩ := ih _ _ _ _ h
      refine ⟨by rw [hlen, List.length_append, List.length_singleton, List.length_cons]; omega, fun _ => ?_⟩
      cases ls with
      | nil => cases h; simp
      | cons _ _ => exact hlast (List.cons_ne_nil _ _)

theorem runRange_length {ls : List (Layer α)} {x : Tensor α} {p q : List (Tensor α)} {r : List (Recorded α)}
    (h : runRange ls x = .ok (p, q, r)) : q.length = ls.length := by
  unfold runRange at h
  split at h
  · cases h
  · rename_i hf
    cases h
    simpa using (rangeFold_spec ls _ _ _ _ _ _ _ _ hf).1

def loopOutputs {P Q R : Type} (step : Tensor α → Except Err (P × Q × R × Tensor α)) :
    Nat → Tensor α → Except Err (List (Tensor α))
  | 0, _ => .ok []
  | k + 1, cur =>
    match step cur with
    | .error e => .error e
    | .ok (_, _, _, out) =>
      match loopOutputs step k out with
      | .error e => .error e
      | .ok os => .ok (out :: os)

set_option linter.unusedSectionVars false in
/-- the recorded runs and the clean list of outputs agree: same failures, and the selected entry of
    every run's recording is that run's output -/
theorem loopRuns_outputs {P Q R : Type} (step : Tensor α → Except Err (P × Q × R × Tensor α))
    (sel : Q → Except Err (Tensor α))
    (hsel : ∀ cur p q r out, step cur = .ok (p, q, r, out) → sel q = .ok out) :
    ∀ (k : Nat) (cur : Tensor α),
    match loopRuns step k cur, loopOutputs step k cur with
    | .ok (ps, qs, rs, fin), .ok os =>
        L.mapM' sel qs = .ok os ∧ ps.length = k ∧ qs.length = k ∧ rs.length = k ∧ os.length = k ∧
        fin = os.getLast?.getD cur
    | .error e, .error e' => e = e'
    | _, _ => False
    := by
  intro k
  induction k with
  | zero => intro cur; simp [loopRuns, loopOutputs, L.mapM']
  | succ k ih0 =>
    intro cur
    simp only [loopRuns, loopOutputs]
    cases hs : step cur with
    | error e => simp
    | ok r =>
      obtain ⟨p, q, r, out⟩ := r
      simp only []
      have ih := ih0 out
      split at ih
      · rename_i ps qs rs fin os hA hB
        obtain ⟨h1, h2, h3, h4, h5, h6⟩ := ih
        simp only [hA, hB]
        refine ⟨by simp only [L.mapM', hsel cur p q r out hs, h1], congrArg (· + 1) h2, congrArg (· + 1) h3,
          congrArg (· + 1) h4, congrArg (· + 1) h5, ?_⟩
        rw [h6, List.getLast?_cons, Option.getD_some]
      · rename_i hA hB
        simpa only [hA, hB] using ih
      · exact ih.elim

theorem loopStep_sel (range : List (Layer α)) (hne : range ≠ []) (s : Shape) (inskips : Bool) (actInto cur : Tensor α)
    (p q : List (Tensor α)) (r : List (Recorded α)) (out : Tensor α)
    (h : loopStep range s inskips actInto cur = .ok (p, q, r, out)) :
    L.get q (range.length - 1) = .ok out := by
  unfold loopStep at h
  simp only [] at h
  split at h
  · cases h
  · split at h
    · cases h
    · split at h
      · cases h
      · rename_i p' q' r' hr
        split at h
        · rename_i out' hl
          cases h
          exact (L.get_last_iff (by rw [runRange_length hr, Nat.sub_add_cancel (List.length_pos_iff.mpr hne)])).mpr hl
        · cases h

theorem loopMerge_ok (n : Network α) (fp fq : List (List (Tensor α))) (fr : List (List (Recorded α)))
    (t t1 : Trace α) (ij : Nat × Nat) (h : loopMerge n fp fq fr (.ok t) ij = .ok t1) :
    ∃ qs aj aj', L.mapM' (fun (x : List (Tensor α)) => L.get x ij.1) fq = .ok qs ∧
      L.get t.act (ij.2 + 1) = .ok aj ∧ loopCombine n.loopaccumulation aj qs = .ok aj' ∧
      t1.act = L.modAt (fun _ => aj') t.act (ij.2 + 1) := by
  unfold loopMerge at h
  simp only [] at h
  split at h
  · rename_i ps qs rs pj aj rj h1 h2 h3 h4 h5 h6
    split at h
    · rename_i pj' aj' rj' h7 h8 h9
      cases h
      exact ⟨qs, aj, aj', h2, h5, h8, rfl⟩
    · cases h
    · cases h
    · cases h
  · cases h

theorem mergeFold_frame (n : Network α) (fp fq : List (List (Tensor α))) (fr : List (List (Recorded α))) (p : Nat)
    (l : List (Nat × Nat)) (t t' : Trace α) (hne : ∀ ij, ij ∈ l → ij.2 + 1 ≠ p)
    (h : l.foldl (loopMerge n fp fq fr) (.ok t) = .ok t') :
    L.get? t'.act p = L.get? t.act p ∧ t'.act.length = t.act.length := by
  induction l generalizing t with
  | nil => cases h; exact ⟨rfl, rfl⟩
  | cons ij l ih =>
    rw [List.foldl_cons] at h
    cases h1 : loopMerge n fp fq fr (.ok t) ij with
    | error e => rw [h1, L.foldl_error (fun _ _ => rfl)] at h; cases h
    | ok t1 =>
      rw [h1] at h
      obtain ⟨qs, aj, aj', _, _, _, hact⟩ := loopMerge_ok n fp fq fr t t1 ij h1
      obtain ⟨hget, hlen⟩ := ih t1 (fun ij' hm => hne ij' (List.mem_cons_of_mem _ hm)) h
      rw [hget, hlen, hact]
      exact ⟨L.get?_modAt_other (hne ij List.mem_cons_self), L.length_modAt _ _ _⟩

/-- of the merge over a range of `m + 1` layers entered at `into`, only the last step writes the last layer's
    activation (position `m + into + 1`); the steps before it leave that position alone (`mergeFold_frame`) -/
theorem mergeFold_last (n : Network α) (fp fq : List (List (Tensor α))) (fr : List (List (Recorded α))) (m into : Nat)
    (t t' : Trace α)
    (h : (List.zip (List.range (m + 1)) ((List.range (m + 1)).map (· + into))).foldl (loopMerge n fp fq fr) (.ok t) = .ok t') :
    ∃ qs aj aj', L.mapM' (fun (x : List (Tensor α)) => L.get x m) fq = .ok qs ∧ L.get t.act (m + into + 1) = .ok aj ∧
      loopCombine n.loopaccumulation aj qs = .ok aj' ∧ L.get t'.act (m + into + 1) = .ok aj' ∧
      t'.act.length = t.act.length := by
  rw [List.range_succ, List.map_append, List.zip_append (by simp), List.foldl_append] at h
  cases hmid : List.foldl (loopMerge n fp fq fr) (.ok t) ((List.range m).zip ((List.range m).map (· + into))) with
  | error e => rw [hmid] at h; cases h
  | ok tmid =>
    rw [hmid] at h
    obtain ⟨hget, hlen⟩ := mergeFold_frame n fp fq fr (m + into + 1) _ t tmid (fun ij hij => by
      obtain ⟨j, hj, hj2⟩ := List.mem_map.mp (List.of_mem_zip hij).2
      have := List.mem_range.mp hj
      omega) hmid
    obtain ⟨qs, aj, aj', hq, haj, hcomb, hact⟩ := loopMerge_ok n fp fq fr tmid t' _ h
    refine ⟨qs, aj, aj', hq, ?_, hcomb, ?_, ?_⟩
    · rwa [L.get, ← hget, ← L.get]
    · rw [hact]
      exact L.get_modAt_same haj
    · rw [hact, L.length_modAt, hlen]

theorem length_modAt {β : Type} (g : β → β) : ∀ (l : List β) (i : Nat), (L.modAt g l i).length = l.length :=
  L.length_modAt g

end LoopSpec
