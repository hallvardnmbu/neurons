import Proofs.Chain

/-!
# A network with one additive skip connection, on the model's own folds (C16)

`head`, then `mid` whose first layer is the skip's source, then `tail` whose first layer is the skip's
target: the target processes `mid(y) + y` with `y = head(x)`.  `Network.forward` records that, and
`Network.backward` — which hands the source the gradient that came back through `mid` *plus* the gradient
with respect to the input the target processed — returns the gradient of the objective.
-/

namespace SkipWalk
open Network Scalar VJP Walk LoopSpec LayerChain

theorem getElem?_three {β : Type} (A B C : List β) (v : β) : (A ++ (v :: B) ++ C)[A.length]? = some v := by
  rw [List.append_assoc, List.getElem?_append_right (Nat.le_refl _), Nat.sub_self]
  rfl

variable {a m b d c : Idx} {ea : Enc a} {em : Enc m} {eb : Enc b} {ed : Enc d} {ec : Enc c}

section
variable (em)
-- `lm fm bm prem rcm wgm`: the skip's source, the first layer of `mid`, as the arguments of `Chain.cons`; `midr`: the rest of `mid`.
-- `lt ft bt pret rct wgt`: likewise the skip's target, the first layer of `tail`; `tailr`: the rest of `tail`.
variable (head : Chain a ea m em)
  (lm : Layer ℝ) (fm : V m.T → V b.T) (bm : V m.T → V b.T → V m.T) (prem : V m.T → Tensor ℝ) (rcm : V m.T → Recorded ℝ)
  (wgm : V m.T → V b.T → WGrad ℝ × BGrad ℝ) (midr : Chain b eb m em)
  (lt : Layer ℝ) (ft : V m.T → V d.T) (bt : V m.T → V d.T → V m.T) (pret : V m.T → Tensor ℝ) (rct : V m.T → Recorded ℝ)
  (wgt : V m.T → V d.T → WGrad ℝ × BGrad ℝ) (tailr : Chain d ed c ec)

abbrev midC : Chain m em m em := .cons lm fm bm prem rcm wgm midr
abbrev tailC : Chain m em c ec := .cons lt ft bt pret rct wgt tailr

def skipFn (x : V a.T) : V c.T :=
  (gnet (tailC em lt ft bt pret rct wgt tailr)).fwd
    ((gnet (midC em lm fm bm prem rcm wgm midr)).fwd ((gnet head).fwd x) + (gnet head).fwd x)

def skipTrace (x : V a.T) : Trace ℝ :=
  let y := (gnet head).fwd x
  let p := (gnet (midC em lm fm bm prem rcm wgm midr)).fwd y + y
  { pre := pres head x ++ pres (midC em lm fm bm prem rcm wgm midr) y ++ pres (tailC em lt ft bt pret rct wgt tailr) p,
    act := ea x :: (acts head x ++ acts (midC em lm fm bm prem rcm wgm midr) y ++ acts (tailC em lt ft bt pret rct wgt tailr) p),
    recs := recs head x ++ recs (midC em lm fm bm prem rcm wgm midr) y ++ recs (tailC em lt ft bt pret rct wgt tailr) p }

/-- the network: the three parts in sequence, one additive skip from the first layer of `mid` to the
    first layer of `tail`, no loop connections -/
structure IsSkipNet (n : Network ℝ) : Prop where
  layers : n.layers = LayerChain.layers head ++ LayerChain.layers (midC em lm fm bm prem rcm wgm midr) ++
    LayerChain.layers (tailC em lt ft bt pret rct wgt tailr)
  connect : n.connect = [((LayerChain.layers head).length + (LayerChain.layers (midC em lm fm bm prem rcm wgm midr)).length,
    (LayerChain.layers head).length)]
  acc : n.skipaccumulation = .add
  loopbacks : n.loopbacks = []

/-! ### the tables: the source is layer `|head|`, the target layer `|head| + (|midr| + 1)` -/

section
variable {em head lm fm bm prem rcm wgm midr lt ft bt pret rct wgt tailr} {n : Network ℝ}
  (hn : IsSkipNet em head lm fm bm prem rcm wgm midr lt ft bt pret rct wgt tailr n)
include hn

theorem IsSkipNet.find_target :
    Assoc.find? n.connect ((LayerChain.layers head).length + ((LayerChain.layers midr).length + 1)) =
      some (LayerChain.layers head).length := by
  rw [hn.connect]
  exact if_pos rfl

theorem IsSkipNet.find_other (i : Nat) (hi : i ≠ (LayerChain.layers head).length + ((LayerChain.layers midr).length + 1)) :
    Assoc.find? n.connect i = none := by
  rw [hn.connect]
  exact if_neg (Ne.symm hi)

theorem IsSkipNet.invert_source :
    Assoc.find? (invertSkips n.connect) (LayerChain.layers head).length =
      some [(LayerChain.layers head).length + ((LayerChain.layers midr).length + 1)] := by
  rw [hn.connect]
  exact if_pos rfl

theorem IsSkipNet.find_source : Assoc.find? n.connect (LayerChain.layers head).length = none :=
  hn.find_other _ (Nat.ne_of_lt (Nat.lt_add_of_pos_right (Nat.succ_pos _)))

theorem IsSkipNet.invert_other (i : Nat) (hi : i ≠ (LayerChain.layers head).length) :
    Assoc.find? (invertSkips n.connect) i = none := by
  rw [hn.connect]
  exact if_neg (Ne.symm hi)

theorem IsSkipNet.invert_target :
    Assoc.find? (invertSkips n.connect) ((LayerChain.layers head).length + ((LayerChain.layers midr).length + 1)) = none :=
  hn.invert_other _ (Nat.ne_of_gt (Nat.lt_add_of_pos_right (Nat.succ_pos _)))

/-- no connection touches the layers after the target (`free_tail`), between source and target (`free_mid`) or
    before the source (`free_head`); each in the form `back_chain` and `forward_chain` ask for -/
theorem IsSkipNet.free_tail (i : Nat) (h : (LayerChain.layers head).length + ((LayerChain.layers midr).length + 1) + 1 ≤ i) :
    Assoc.find? n.connect i = none ∧ Assoc.find? (invertSkips n.connect) i = none :=
  ⟨hn.find_other i (by omega), hn.invert_other i (by omega)⟩

theorem IsSkipNet.free_mid (i : Nat) (h1 : (LayerChain.layers head).length + 1 ≤ i)
    (h2 : i < (LayerChain.layers head).length + 1 + (LayerChain.layers midr).length) :
    Assoc.find? n.connect i = none ∧ Assoc.find? (invertSkips n.connect) i = none :=
  ⟨hn.find_other i (by omega), hn.invert_other i (by omega)⟩

theorem IsSkipNet.free_head (i : Nat) (h : i < 0 + (LayerChain.layers head).length) :
    Assoc.find? n.connect i = none ∧ Assoc.find? (invertSkips n.connect) i = none :=
  ⟨hn.find_other i (by omega), hn.invert_other i (by omega)⟩

theorem IsSkipNet.length :
    n.layers.length =
      (LayerChain.layers head).length + ((LayerChain.layers midr).length + 1) + ((LayerChain.layers tailr).length + 1) := by
  rw [hn.layers]
  simp only [LayerChain.layers, List.length_append, List.length_cons]

theorem IsSkipNet.skipInput_target (he : EncAdd em) (act : List (Tensor ℝ)) (u v : V m.T)
    (ht : L.get act ((LayerChain.layers head).length + ((LayerChain.layers midr).length + 1)) = .ok (em u))
    (hs : L.get act (LayerChain.layers head).length = .ok (em v)) :
    skipInput n act ((LayerChain.layers head).length + ((LayerChain.layers midr).length + 1)) = .ok (em (u + v)) :=
  Walk.skipInput_target n hn.acc act hn.find_target ht hs
    ⟨em v, if_neg (not_not.mpr (he.shape v u)), he.add u v⟩

end

theorem acts_source_target (x : V a.T) :
    L.get ((ea x :: acts head x) ++ acts (midC em lm fm bm prem rcm wgm midr) ((gnet head).fwd x)) (LayerChain.layers head).length =
      .ok (em ((gnet head).fwd x)) ∧
    L.get ((ea x :: acts head x) ++ acts (midC em lm fm bm prem rcm wgm midr) ((gnet head).fwd x))
        ((LayerChain.layers head).length + ((LayerChain.layers midr).length + 1)) =
      .ok (em ((gnet (midC em lm fm bm prem rcm wgm midr)).fwd ((gnet head).fwd x))) ∧
    (acts head x).length = (LayerChain.layers head).length ∧
    (acts (midC em lm fm bm prem rcm wgm midr) ((gnet head).fwd x)).length = (LayerChain.layers midr).length + 1 := by
  have hlh := (lengths head x).2.1
  have hlm : (acts (midC em lm fm bm prem rcm wgm midr) ((gnet head).fwd x)).length = (LayerChain.layers midr).length + 1 :=
    (lengths (midC em lm fm bm prem rcm wgm midr) ((gnet head).fwd x)).2.1
  refine ⟨?_, (L.get_last_iff (by simp [hlh, hlm])).mpr (acts_getLast _ _ _ (acts_last head x)), hlh, hlm⟩
  have := (sits_append_left (ea x :: acts head x) (acts (midC em lm fm bm prem rcm wgm midr) ((gnet head).fwd x))).last
    (acts_last head x) (by simp [hlh] : (ea x :: acts head x).length = (LayerChain.layers head).length + 1)
  rwa [Nat.zero_add] at this

/-- **forward**: the target processes the sum of its ordinary input and the source's input -/
theorem forward_skip (n : Network ℝ) (hn : IsSkipNet em head lm fm bm prem rcm wgm midr lt ft bt pret rct wgt tailr n)
    (he : EncAdd em) (x : V a.T)
    (hrh : Real head x) (hrm : Real (midC em lm fm bm prem rcm wgm midr) ((gnet head).fwd x))
    (hrt : Real (tailC em lt ft bt pret rct wgt tailr)
      ((gnet (midC em lm fm bm prem rcm wgm midr)).fwd ((gnet head).fwd x) + (gnet head).fwd x)) :
    n.forward (ea x) = .ok (skipTrace em head lm fm bm prem rcm wgm midr lt ft bt pret rct wgt tailr x) := by
  obtain ⟨hsrc, htgt, hlh, hlm⟩ := acts_source_target em head lm fm bm prem rcm wgm midr x
  unfold Network.forward
  rw [hn.layers, List.range_eq_range', L.zip_range'_append, List.foldl_append, L.zip_range'_append, List.foldl_append,
    forward_chain n hn.loopbacks head x hrh 0 _ rfl rfl (fun i _ h => (hn.free_head i h).1), Nat.zero_add,
    forward_chain n hn.loopbacks (midC em lm fm bm prem rcm wgm midr) _ hrm _ _ (acts_last head x) (by simp [hlh])
      (fun i _ h => hn.find_other i (Nat.ne_of_lt h))]
  simp only [LayerChain.layers, List.length_cons, List.range'_succ, List.zip_cons_cons, List.foldl_cons, List.length_append,
    Nat.zero_add]
  rw [forward_cell n _ _ lt hn.loopbacks (hn.skipInput_target he _ _ _ htgt hsrc) hrt.1,
    forward_chain n hn.loopbacks tailr _ hrt.2.2 _ _
      (List.getLast?_concat ..) (by simp [hlh, hlm, Nat.add_assoc]) (fun i h _ => (hn.free_tail i h).1)]
  simp [skipTrace, pres, acts, recs, List.append_assoc]

def skipBwd (x : V a.T) (g : V c.T) : V a.T :=
  let y := (gnet head).fwd x
  let p := (gnet (midC em lm fm bm prem rcm wgm midr)).fwd y + y
  let δ := (gnet (tailC em lt ft bt pret rct wgt tailr)).bwd p g
  (gnet head).bwd x ((gnet (midC em lm fm bm prem rcm wgm midr)).bwd y δ + δ)

theorem skipTrace_holds (x : V a.T) :
    Holds (skipTrace em head lm fm bm prem rcm wgm midr lt ft bt pret rct wgt tailr x) 0 head x ∧
    Holds (skipTrace em head lm fm bm prem rcm wgm midr lt ft bt pret rct wgt tailr x) (LayerChain.layers head).length
      (midC em lm fm bm prem rcm wgm midr) ((gnet head).fwd x) ∧
    Holds (skipTrace em head lm fm bm prem rcm wgm midr lt ft bt pret rct wgt tailr x)
      ((LayerChain.layers head).length + ((LayerChain.layers midr).length + 1)) (tailC em lt ft bt pret rct wgt tailr)
      ((gnet (midC em lm fm bm prem rcm wgm midr)).fwd ((gnet head).fwd x) + (gnet head).fwd x) := by
  obtain ⟨h1, h2, h3⟩ := lengths head x
  obtain ⟨m1, m2, m3⟩ := lengths (midC em lm fm bm prem rcm wgm midr) ((gnet head).fwd x)
  have hmid : (LayerChain.layers (midC em lm fm bm prem rcm wgm midr)).length = (LayerChain.layers midr).length + 1 := rfl
  exact ⟨⟨(sits_append_left (ea x :: acts head x ++ _) _).left.tail, (sits_append_left _ _).left, (sits_append_left _ _).left⟩,
    ⟨(sits_mid (ea x :: acts head x) _ _).cast (by simp [h2]), (sits_mid _ _ _).cast h1, (sits_mid _ _ _).cast h3⟩,
    ⟨(sits_append_right (ea x :: acts head x ++ _) _).cast (by simp [h2, m2, hmid]),
      (sits_append_right _ _).cast (by simp [h1, m1, hmid]), (sits_append_right _ _).cast (by simp [h3, m3, hmid])⟩⟩

theorem skipTrace_inputs (x : V a.T) :
    L.get (skipTrace em head lm fm bm prem rcm wgm midr lt ft bt pret rct wgt tailr x).act 0 = .ok (ea x) ∧
    L.get (skipTrace em head lm fm bm prem rcm wgm midr lt ft bt pret rct wgt tailr x).act (LayerChain.layers head).length =
      .ok (em ((gnet head).fwd x)) ∧
    L.get (skipTrace em head lm fm bm prem rcm wgm midr lt ft bt pret rct wgt tailr x).act
        ((LayerChain.layers head).length + ((LayerChain.layers midr).length + 1)) =
      .ok (em ((gnet (midC em lm fm bm prem rcm wgm midr)).fwd ((gnet head).fwd x))) :=
  ⟨rfl, L.get_append_ok (acts_source_target em head lm fm bm prem rcm wgm midr x).1,
    L.get_append_ok (acts_source_target em head lm fm bm prem rcm wgm midr x).2.1⟩

/-- **backward**: the reverse walk over the recorded trace ends in `skipBwd` -/
theorem backward_skip (n : Network ℝ) (hn : IsSkipNet em head lm fm bm prem rcm wgm midr lt ft bt pret rct wgt tailr n)
    (he : EncAdd em) (x : V a.T) (g : V c.T)
    (hrh : Real head x) (hrm : Real (midC em lm fm bm prem rcm wgm midr) ((gnet head).fwd x))
    (hrt : Real (tailC em lt ft bt pret rct wgt tailr)
      ((gnet (midC em lm fm bm prem rcm wgm midr)).fwd ((gnet head).fwd x) + (gnet head).fwd x)) :
    ∃ ws bs gs, n.backward (ec g) (skipTrace em head lm fm bm prem rcm wgm midr lt ft bt pret rct wgt tailr x) = .ok (ws, bs, gs) ∧
      gs.getLast? = some (ea (skipBwd em head lm fm bm prem rcm wgm midr lt ft bt pret rct wgt tailr x g)) := by
  obtain ⟨hTh, hTm, hTt⟩ := skipTrace_holds em head lm fm bm prem rcm wgm midr lt ft bt pret rct wgt tailr x
  obtain ⟨h0, hsrc, htgt⟩ := skipTrace_inputs em head lm fm bm prem rcm wgm midr lt ft bt pret rct wgt tailr x
  generalize skipTrace em head lm fm bm prem rcm wgm midr lt ft bt pret rct wgt tailr x = T at *
  obtain ⟨y, hy⟩ : ∃ y, y = (gnet head).fwd x := ⟨_, rfl⟩
  rw [← hy] at hrm hrt hTm hTt hsrc htgt
  obtain ⟨z, hz⟩ : ∃ z, z = (gnet (midC em lm fm bm prem rcm wgm midr)).fwd y := ⟨_, rfl⟩
  rw [← hz] at hrt hTt htgt
  obtain ⟨δ, hδ⟩ : ∃ δ, δ = bt (z + y) ((gnet tailr).bwd (ft (z + y)) g) := ⟨_, rfl⟩
  -- the source adds the target's processed-input gradient, found `|tailr| + 1` places into `processed`
  have hadd : ∀ ig : V m.T, ((Assoc.find? (invertSkips n.connect) (LayerChain.layers head).length).getD []).foldl
      (addSkipGradient n.layers.length (LayerChain.layers head).length (em ig)
        ([ec g] ++ handed tailr (ft (z + y)) g ++ [em δ] ++ handed midr (fm y) δ)) (.ok (em ig)) = .ok (em (ig + δ)) := by
    intro ig
    have hproc : L.get ([ec g] ++ handed tailr (ft (z + y)) g ++ [em δ] ++ handed midr (fm y) δ)
        ((LayerChain.layers tailr).length + 1) = .ok (em δ) := by
      rw [List.append_assoc ([ec g] ++ _)]
      exact L.get_append_cons (by simp [handed_length])
    rw [hn.invert_source]
    simp only [Option.getD_some, List.foldl_cons, List.foldl_nil, addSkipGradient, hn.length, checkedSub_add_left, hproc]
    rw [if_neg (Nat.ne_of_gt (Nat.lt_add_of_pos_right (Nat.succ_pos _)))]
    simp only [he.reshape, he.add]
  unfold Network.backward
  rw [hn.layers, List.range_eq_range', L.zip_range'_append, L.zip_range'_append]
  simp only [LayerChain.layers, List.length_cons, List.range'_succ, List.zip_cons_cons, List.reverse_append, List.reverse_cons,
    List.length_append, Nat.zero_add, List.foldl_append, List.foldl_cons, List.foldl_nil]
  -- the layers after the target, the target, the layers the skip goes around, the source, the head
  rw [back_chain n T _ tailr (ft (z + y)) g _ hrt.2.2 hTt.tail hTt.act.head
      (fun i h _ => hn.free_tail i h) [ec g] [ec g] rfl,
    back_cell n T _ _ lt (em (z + y)) (pret (z + y)) (em δ) (em δ) (hn.skipInput_target he T.act z y htgt hsrc)
      hTt.pre.head (handed_getLast tailr (ft (z + y)) g [ec g] rfl) (by rw [hTt.recs.head, hδ]; exact hrt.2.1 _)
      (by rw [hn.invert_target]; rfl),
    back_chain n T _ midr (fm y) δ _ hrm.2.2 hTm.tail hTm.act.head
      (fun i h1 h2 => hn.free_mid i h1 h2) _ _ (List.getLast?_concat ..),
    back_cell n T _ _ lm (em y) (prem y) _ _ (by rw [skipInput_free n _ _ hn.find_source, hsrc]) hTm.pre.head
      (handed_getLast midr (fm y) δ _ (List.getLast?_concat ..)) (by rw [hTm.recs.head]; exact hrm.2.1 _) (hadd _),
    back_chain n T _ head x _ 0 hrh hTh h0 (fun i _ h => hn.free_head i h) _ _ (List.getLast?_concat ..)]
  refine ⟨_, _, _, rfl, (handed_getLast head x _ _ (List.getLast?_concat ..)).trans ?_⟩
  subst hδ hz hy
  rfl

theorem skip_isVJP (x : V a.T) (hh : (gnet head).Ok x)
    (hm : (gnet (midC em lm fm bm prem rcm wgm midr)).Ok ((gnet head).fwd x))
    (ht : (gnet (tailC em lt ft bt pret rct wgt tailr)).Ok
      ((gnet (midC em lm fm bm prem rcm wgm midr)).fwd ((gnet head).fwd x) + (gnet head).fwd x)) :
    IsVJP (skipFn em head lm fm bm prem rcm wgm midr lt ft bt pret rct wgt tailr) x
      (skipBwd em head lm fm bm prem rcm wgm midr lt ft bt pret rct wgt tailr x) := by
  -- not `exact IsVJP.comp …`: elaborated against the goal, `comp` reads its implicit functions off the unfolded `skipFn` and
  -- `skipBwd` and splits them in the wrong place
  have h := IsVJP.comp (IsVJP.comp (GNet.vjp (gnet head) x hh)
    (IsVJP.add_skip (GNet.vjp (gnet (midC em lm fm bm prem rcm wgm midr)) _ hm)))
    (GNet.vjp (gnet (tailC em lt ft bt pret rct wgt tailr)) _ ht)
  exact h

/-- **a network with one additive skip connection, end to end on the model's own folds**: forward ends in
    `tail (mid (head x) + head x)`; the last gradient backward hands on is the gradient of the objective with
    respect to the network input -/
theorem skip_network_gradient (n : Network ℝ) (hn : IsSkipNet em head lm fm bm prem rcm wgm midr lt ft bt pret rct wgt tailr n)
    (he : EncAdd em) (x : V a.T)
    (hrh : Real head x) (hrm : Real (midC em lm fm bm prem rcm wgm midr) ((gnet head).fwd x))
    (hrt : Real (tailC em lt ft bt pret rct wgt tailr)
      ((gnet (midC em lm fm bm prem rcm wgm midr)).fwd ((gnet head).fwd x) + (gnet head).fwd x))
    (hh : (gnet head).Ok x) (hm : (gnet (midC em lm fm bm prem rcm wgm midr)).Ok ((gnet head).fwd x))
    (ht : (gnet (tailC em lt ft bt pret rct wgt tailr)).Ok
      ((gnet (midC em lm fm bm prem rcm wgm midr)).fwd ((gnet head).fwd x) + (gnet head).fwd x))
    (ℓ : V c.T → ℝ) (g : V c.T)
    (hg : IsGrad ℓ (skipFn em head lm fm bm prem rcm wgm midr lt ft bt pret rct wgt tailr x) g) :
    ∃ t ws bs gs γ,
      n.forward (ea x) = .ok t ∧
      t.act.getLast? = some (ec (skipFn em head lm fm bm prem rcm wgm midr lt ft bt pret rct wgt tailr x)) ∧
      n.backward (ec g) t = .ok (ws, bs, gs) ∧ gs.getLast? = some (ea γ) ∧
      IsGrad (ℓ ∘ skipFn em head lm fm bm prem rcm wgm midr lt ft bt pret rct wgt tailr) x γ := by
  obtain ⟨ws, bs, gs, hb, hl⟩ := backward_skip em head lm fm bm prem rcm wgm midr lt ft bt pret rct wgt tailr n hn he x g hrh hrm hrt
  refine ⟨_, ws, bs, gs, _, forward_skip em head lm fm bm prem rcm wgm midr lt ft bt pret rct wgt tailr n hn he x hrh hrm hrt,
    ?_, hb, hl, IsGrad.comp_vjp (skip_isVJP em head lm fm bm prem rcm wgm midr lt ft bt pret rct wgt tailr x hh hm ht) hg⟩
  -- the target's output is recorded, and the rest of the tail follows it
  have := acts_getLast tailr (ft ((gnet (midC em lm fm bm prem rcm wgm midr)).fwd ((gnet head).fwd x) + (gnet head).fwd x))
    (ea x :: (acts head x ++ acts (midC em lm fm bm prem rcm wgm midr) ((gnet head).fwd x)) ++ [ed _]) (List.getLast?_concat ..)
  simpa only [skipTrace, skipFn, acts, gnet, GNet.fwd, List.cons_append, List.append_assoc, List.nil_append] using this

end

end SkipWalk
