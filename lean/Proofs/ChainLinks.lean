import Proofs.Chain
import Proofs.ConvBridge
import Proofs.DeconvBridge
import Proofs.Flat3
import Proofs.DenseStack
import Proofs.MaxpoolLocal

/-!
# The model's layer kinds as links of a `Chain` (C01, C16): dense, convolution, deconvolution, max-pool
(the spatial ones also with flattened output, when a dense layer follows); a stack of dense layers as a chain

A kind is made a link by three things: `cons<K>` (its vector function, backward function and what the model records
for it, in front of a chain), `real_<k>` (`layerForward` / `layerBackward` compute exactly these on the encodings) and
`vjp_<k>` (the backward function is the transposed Jacobian where no pre-activation sits on a kink of the activation:
`DenseStack.NoKink`, used through `DenseStack.act_hasDerivAt`).  Two of the third stand elsewhere:
`DenseStack.vjp_dense`, and for the max-pool `MaxpoolLocal.pool_isVJP` (no activation; `NoTies` takes the place of
`NoKink`), of which only the flattened `vjp_pool_flat` is here.

The vector and backward functions per kind: conv `ConvNet.convFn`, `convBwdX` / `convBwdKer`; deconv `deconvFn`,
`DeconvBridge.bwdX` / `bwdKer`; max-pool `MaxpoolBridge.poolFn`, `poolBwd`; dense `VJP.denseFn`, `denseBwd` / `denseWG`.

A further kind starts in the model (the layer in `Model/Layers.lean`; `Layer`, `Network.layerForward` / `layerBackward`
in `Model/Network.lean`) and then follows the files of an existing one: `<K>VJP` (the pre-activation map and its
transposed Jacobian, through `IsVJP.of_adjoint`), `<K>Bridge` (the layer's `forward` / `backward` on encodings), and
the three pieces here.
-/

namespace ConvNet
open VJP ConvVJP ConvBridge Flat3 DenseStack

variable {kf kc kh kw ih iw oh ow k : ℕ}

noncomputable def convFn (l : Conv ℝ) (a : Act) (K : V (I4 kf kc kh kw)) (ih iw oh ow : ℕ) (x : V (I3 kc ih iw)) : V (I3 kf oh ow) :=
  fun i => Act.f a (pre l K ih iw oh ow x i)

/-- the whole network as a vector function: convolution, flatten, dense stack -/
noncomputable def netFn (l : Conv ℝ) (a : Act) (K : V (I4 kf kc kh kw)) (ih iw : ℕ) (s : Stack (kf * oh * ow) k)
    (x : V (I3 kc ih iw)) : Vec k :=
  s.net.fwd (flat (convFn l a K ih iw oh ow x))

end ConvNet

namespace ChainLinks
open Network Scalar VJP ConvVJP ConvBridge Flat3 DenseBridge DenseStack LayerChain ConvNet

abbrev iVec (n : ℕ) : Idx := ⟨Fin n⟩
abbrev iVol (c h w : ℕ) : Idx := ⟨I3 c h w⟩

noncomputable def eVec (n : ℕ) : Enc (iVec n) := fun v => vecT v
noncomputable def eVol (c h w : ℕ) : Enc (iVol c h w) := fun v => T3 v

section dense
variable {r c : ℕ}

/-- what `DenseLayer.backward` hands on: `Wᵀδ` with `δ = a′(pre) ⊙ g` (`VJP.delta`) -/
noncomputable def denseBwd (a : Act) (W : V (Fin r × Fin c)) (b : Vec r) (x : Vec c) (g : Vec r) : Vec c :=
  inputGrad W (VJP.delta (Act.df a) (densePre W b x) g)

/-- what `DenseLayer.backward` records, `δ ⊗ x` and `δ`, already as the model's tensors (the other kinds keep a vector
    here and encode it in `cons<K>`) -/
noncomputable def denseWG (a : Act) (W : V (Fin r × Fin c)) (b : Vec r) (x : Vec c) (g : Vec r) : WGrad ℝ × BGrad ℝ :=
  (.one (matT (weightGrad (VJP.delta (Act.df a) (densePre W b x) g) x)),
   .one (some (vecT (VJP.delta (Act.df a) (densePre W b x) g))))

noncomputable def consDense {k : Idx} {ek : Enc k} (l : DenseLayer ℝ) (a : Act) (W : V (Fin r × Fin c)) (b : Vec r)
    (rest : Chain (iVec r) (eVec r) k ek) : Chain (iVec c) (eVec c) k ek :=
  .cons (.dense l) (denseFn (Act.f a) W b) (denseBwd a W b) (fun x => vecT (densePre W b x)) (fun _ => .none)
    (denseWG a W b) rest

theorem real_dense (l : DenseLayer ℝ) (a : Act) (W : V (Fin r × Fin c)) (b : Vec r) (hl : IsDense l a W b)
    (ha : a ≠ .softmax) (hr : 0 < r) (hc : 0 < c) (x : Vec c) :
    layerForward (.dense l) (vecT x) = .ok (vecT (densePre W b x), vecT (denseFn (Act.f a) W b x), .none) ∧
    ∀ g, layerBackward (.dense l) (vecT g) (vecT x) (vecT (densePre W b x)) (.ok .none) =
      .ok (vecT (denseBwd a W b x g), (denseWG a W b x g).1, (denseWG a W b x g).2) := by
  refine ⟨by simp only [layerForward, DenseBridge.forward_eq l a W b hl ha x], fun g => ?_⟩
  simp only [layerBackward, DenseBridge.backward_eq l a W b hl ha hr hc x g]
  rfl

end dense

/-- away from the activation's kinks, the layer `act ∘ P` hands `bP (g ⊙ a′(P x))` back, whatever the
    pre-activation map `P` is a function of (the input or the kernels) -/
theorem isVJP_act {ι : Type} [Fintype ι] {kf oh ow : ℕ} (a : Act) (ha : a ≠ .softmax) {P : V ι → V (I3 kf oh ow)} {x : V ι}
    {bP : V (I3 kf oh ow) → V ι} (hP : IsVJP P x bP) (hk : ∀ i, NoKink a (P x i)) :
    IsVJP (fun y i => Act.f a (P y i)) x (fun g => bP (ConvBridge.delta a (P x) g)) := by
  have h := isVJP_elementwise P x bP (Act.f a) (Act.df a) hP (fun i => act_hasDerivAt a ha _ (hk i))
  simp only [← ConvBridge.delta_eq] at h
  exact h

section conv
variable {kf kc kh kw ih iw oh ow : ℕ}

/-- the zero-padded input the layer works on -/
noncomputable def padOf (l : Conv ℝ) (ih iw : ℕ) (x : V (I3 kc ih iw)) : V3 ℝ :=
  match Tensor.pad3d (toList3 x) (ih + 2 * l.padding.1) (iw + 2 * l.padding.2) with
  | .ok xp => xp
  | .error _ => []

theorem padOf_ok (l : Conv ℝ) (x : V (I3 kc ih iw)) (hkc : 0 < kc) (hih : 0 < ih) :
    Tensor.pad3d (toList3 x) (ih + 2 * l.padding.1) (iw + 2 * l.padding.2) = .ok (padOf l ih iw x) := by
  simp only [padOf, C02.pad3d_of_dims _ kc ih iw _ _ (toList3_dims x) hkc hih]

/-- the layer's input gradient, activation included: `ConvVJP.convBwd` at `toList4 K`, of `δ = g ⊙ a′(pre)` -/
noncomputable def convBwdX (l : Conv ℝ) (a : Act) (K : V (I4 kf kc kh kw)) (ih iw oh ow : ℕ) (x : V (I3 kc ih iw))
    (g : V (I3 kf oh ow)) : V (I3 kc ih iw) :=
  convBwd l (toList4 K) kf kc kh kw ih iw oh ow (ConvBridge.delta a (pre l K ih iw oh ow x) g)

/-- the layer's kernel gradient, activation included: `ConvVJP.convBwdK` on the padded input, of the same `δ` -/
noncomputable def convBwdKer (l : Conv ℝ) (a : Act) (K : V (I4 kf kc kh kw)) (ih iw oh ow : ℕ) (x : V (I3 kc ih iw))
    (g : V (I3 kf oh ow)) : V (I4 kf kc kh kw) :=
  convBwdK l kf kc kh kw oh ow (padOf l ih iw x) (ih + 2 * l.padding.1) (iw + 2 * l.padding.2)
    (ConvBridge.delta a (pre l K ih iw oh ow x) g)

noncomputable def consConv {k : Idx} {ek : Enc k} (l : Conv ℝ) (a : Act) (K : V (I4 kf kc kh kw)) (ih iw : ℕ)
    (rest : Chain (iVol kf oh ow) (eVol kf oh ow) k ek) : Chain (iVol kc ih iw) (eVol kc ih iw) k ek :=
  .cons (.conv l) (convFn l a K ih iw oh ow) (convBwdX l a K ih iw oh ow) (fun x => T3 (pre l K ih iw oh ow x))
    (fun _ => .none) (fun x g => (.one (T4 (convBwdKer l a K ih iw oh ow x g)), .one none)) rest

noncomputable def consConvFlat {k : Idx} {ek : Enc k} (l : Conv ℝ) (a : Act) (K : V (I4 kf kc kh kw)) (ih iw : ℕ)
    (rest : Chain (iVec (kf * oh * ow)) (eVec (kf * oh * ow)) k ek) : Chain (iVol kc ih iw) (eVol kc ih iw) k ek :=
  .cons (.conv l) (fun x => flat (convFn l a K ih iw oh ow x)) (fun x g => convBwdX l a K ih iw oh ow x (unflat g))
    (fun x => T3 (pre l K ih iw oh ow x)) (fun _ => .none)
    (fun x g => (.one (T4 (convBwdKer l a K ih iw oh ow x (unflat g))), .one none)) rest

/-- `Conv.backward` on a gradient that arrives spatial or flat (`G` reads as `g`) -/
theorem conv_backward_eq (l : Conv ℝ) (a : Act) (K : V (I4 kf kc kh kw)) (hl : IsConv l a K ih iw oh ow) (ha : a ≠ .softmax)
    (x : V (I3 kc ih iw)) (g : V (I3 kf oh ow)) (G : Tensor ℝ) (hG : G.getTriple l.outputs = .ok (toList3 g)) :
    l.backward G (T3 x) (T3 (pre l K ih iw oh ow x)) =
      .ok (T3 (convBwdX l a K ih iw oh ow x g), T4 (convBwdKer l a K ih iw oh ow x g), none) := by
  obtain ⟨hkf, hkc, hkh, hih, hoh⟩ := hl.pos
  obtain ⟨xp, hp, hb⟩ := ConvBridge.backward_eq l a K hl ha x g G hG
  rw [padOf_ok l x hkc hih] at hp
  cases hp
  rw [hb, kernelGrad_T4]
  rfl

theorem real_conv (l : Conv ℝ) (a : Act) (K : V (I4 kf kc kh kw)) (hl : IsConv l a K ih iw oh ow) (ha : a ≠ .softmax)
    (hfl : l.flatten = false) (x : V (I3 kc ih iw)) :
    layerForward (.conv l) (T3 x) = .ok (T3 (pre l K ih iw oh ow x), T3 (convFn l a K ih iw oh ow x), .none) ∧
    ∀ g, layerBackward (.conv l) (T3 g) (T3 x) (T3 (pre l K ih iw oh ow x)) (.ok .none) =
      .ok (T3 (convBwdX l a K ih iw oh ow x g), .one (T4 (convBwdKer l a K ih iw oh ow x g)), .one none) := by
  refine ⟨?_, fun g => ?_⟩
  · simp only [layerForward, ConvBridge.forward_gen l a K hl ha x, hfl]
    rfl
  · simp only [layerBackward, conv_backward_eq l a K hl ha x g (T3 g) rfl]

theorem real_conv_flat (l : Conv ℝ) (a : Act) (K : V (I4 kf kc kh kw)) (hl : IsConv l a K ih iw oh ow) (ha : a ≠ .softmax)
    (hfl : l.flatten = true) (x : V (I3 kc ih iw)) :
    layerForward (.conv l) (T3 x) = .ok (T3 (pre l K ih iw oh ow x), vecT (flat (convFn l a K ih iw oh ow x)), .none) ∧
    ∀ g : Vec (kf * oh * ow), layerBackward (.conv l) (vecT g) (T3 x) (T3 (pre l K ih iw oh ow x)) (.ok .none) =
      .ok (T3 (convBwdX l a K ih iw oh ow x (unflat g)), .one (T4 (convBwdKer l a K ih iw oh ow x (unflat g))), .one none) := by
  obtain ⟨hkf, hkc, hkh, hih, hoh⟩ := hl.pos
  refine ⟨?_, fun g => ?_⟩
  · simp only [layerForward, ConvBridge.forward_gen l a K hl ha x, hfl, ↓reduceIte, flatten_T3 _ hkf hoh]
    rfl
  · simp only [layerBackward, conv_backward_eq l a K hl ha x (unflat g) (vecT g) (getTriple_vecT_of hl.outputs g)]

theorem vjp_conv (l : Conv ℝ) (a : Act) (K : V (I4 kf kc kh kw)) (hl : IsConv l a K ih iw oh ow) (ha : a ≠ .softmax)
    (x : V (I3 kc ih iw)) (hk : ∀ i, NoKink a (pre l K ih iw oh ow x i)) :
    IsVJP (convFn l a K ih iw oh ow) x (convBwdX l a K ih iw oh ow x) := by
  obtain ⟨-, hkc, -, hih, -⟩ := hl.pos
  exact isVJP_act a ha (conv_isVJP l (toList4 K) kf kc kh kw ih iw oh ow hkc hih x) hk

theorem vjp_conv_flat (l : Conv ℝ) (a : Act) (K : V (I4 kf kc kh kw)) (hl : IsConv l a K ih iw oh ow) (ha : a ≠ .softmax)
    (x : V (I3 kc ih iw)) (hk : ∀ i, NoKink a (pre l K ih iw oh ow x i)) :
    IsVJP (fun x => flat (convFn l a K ih iw oh ow x)) x
      (fun g => convBwdX l a K ih iw oh ow x (unflat g)) :=
  IsVJP.comp (vjp_conv l a K hl ha x hk) (flat_isVJP (convFn l a K ih iw oh ow x))

theorem vjp_conv_kernels (l : Conv ℝ) (a : Act) (K : V (I4 kf kc kh kw)) (hl : IsConv l a K ih iw oh ow) (ha : a ≠ .softmax)
    (x : V (I3 kc ih iw)) (hk : ∀ i, NoKink a (pre l K ih iw oh ow x i)) :
    IsVJP (fun K' => convFn l a K' ih iw oh ow x) K (convBwdKer l a K ih iw oh ow x) := by
  obtain ⟨-, hkc, -, hih, -⟩ := hl.pos
  exact isVJP_act a ha (pre_kernels_isVJP l K x hkc hih _ (padOf_ok l x hkc hih)) hk

/-- a convolution whose output stays spatial, in front of any chain: `first_link_gradients` with the convolution's link
    data — the input gradient handed on and the kernel gradient recorded are the gradients of the objective -/
theorem conv_first_link_gradients {c : Idx} {ec : Enc c} (n : Network ℝ) (l : Conv ℝ) (a : Act) (K : V (I4 kf kc kh kw))
    (hl : IsConv l a K ih iw oh ow) (ha : a ≠ .softmax) (hfl : l.flatten = false)
    (tail : Chain (iVol kf oh ow) (eVol kf oh ow) c ec) (hn : n.layers = .conv l :: layers tail) (hc : n.connect = [])
    (hlb : n.loopbacks = []) (x : V (I3 kc ih iw)) (hk : ∀ i, NoKink a (pre l K ih iw oh ow x i))
    (hrt : Real tail (convFn l a K ih iw oh ow x)) (htail : (gnet tail).Ok (convFn l a K ih iw oh ow x))
    (ℓ : V c.T → ℝ) (g : V c.T) (hg : IsGrad ℓ ((gnet tail).fwd (convFn l a K ih iw oh ow x)) g) :
    ∃ t ws bs gs γ ω,
      n.forward (T3 x) = .ok t ∧ t.act.getLast? = some (ec ((gnet tail).fwd (convFn l a K ih iw oh ow x))) ∧
      n.backward (ec g) t = .ok (ws, bs, gs) ∧ gs.getLast? = some (T3 γ) ∧ ws.getLast? = some (.one (T4 ω)) ∧
      IsGrad (fun z => ℓ ((gnet tail).fwd (convFn l a K ih iw oh ow z))) x γ ∧
      IsGrad (fun K' => ℓ ((gnet tail).fwd (convFn l a K' ih iw oh ow x))) K ω := by
  obtain ⟨t, ws, bs, gs, h⟩ := first_link_gradients (ι := I4 kf kc kh kw) (a := iVol kc ih iw) (b := iVol kf oh ow)
    (ea := eVol kc ih iw) (eb := eVol kf oh ow) n (.conv l) (fun K z => convFn l a K ih iw oh ow z) K
    (convBwdX l a K ih iw oh ow) (fun z => T3 (pre l K ih iw oh ow z)) (fun _ => .none)
    (fun z g => (.one (T4 (convBwdKer l a K ih iw oh ow z g)), .one none)) tail hn hc hlb x
    (real_conv l a K hl ha hfl x) hrt (vjp_conv l a K hl ha x hk) htail
    (convBwdKer l a K ih iw oh ow x) (vjp_conv_kernels l a K hl ha x hk) ℓ g hg
  exact ⟨t, ws, bs, gs, _, _, h⟩

end conv

section deconv
open DeconvVJP DeconvBridge
variable {kf kc kh kw ih iw oh ow : ℕ}

noncomputable def deconvFn (l : Deconv ℝ) (a : Act) (K : V (I4 kf kc kh kw)) (ih iw oh ow : ℕ) (x : V (I3 kc ih iw)) :
    V (I3 kf oh ow) := fun i => Act.f a (DeconvBridge.pre l K ih iw oh ow x i)

noncomputable def consDeconv {k : Idx} {ek : Enc k} (l : Deconv ℝ) (a : Act) (K : V (I4 kf kc kh kw)) (ih iw : ℕ)
    (rest : Chain (iVol kf oh ow) (eVol kf oh ow) k ek) : Chain (iVol kc ih iw) (eVol kc ih iw) k ek :=
  .cons (.deconv l) (deconvFn l a K ih iw oh ow) (bwdX l a K ih iw oh ow) (fun x => T3 (DeconvBridge.pre l K ih iw oh ow x))
    (fun _ => .none) (fun x g => (.one (T4 (bwdKer l a K ih iw oh ow x g)), .one none)) rest

noncomputable def consDeconvFlat {k : Idx} {ek : Enc k} (l : Deconv ℝ) (a : Act) (K : V (I4 kf kc kh kw)) (ih iw : ℕ)
    (rest : Chain (iVec (kf * oh * ow)) (eVec (kf * oh * ow)) k ek) : Chain (iVol kc ih iw) (eVol kc ih iw) k ek :=
  .cons (.deconv l) (fun x => flat (deconvFn l a K ih iw oh ow x)) (fun x g => bwdX l a K ih iw oh ow x (unflat g))
    (fun x => T3 (DeconvBridge.pre l K ih iw oh ow x)) (fun _ => .none)
    (fun x g => (.one (T4 (bwdKer l a K ih iw oh ow x (unflat g))), .one none)) rest

theorem real_deconv (l : Deconv ℝ) (a : Act) (K : V (I4 kf kc kh kw)) (hl : IsDeconv l a K ih iw oh ow) (ha : a ≠ .softmax)
    (hfl : l.flatten = false) (x : V (I3 kc ih iw)) :
    layerForward (.deconv l) (T3 x) = .ok (T3 (DeconvBridge.pre l K ih iw oh ow x), T3 (deconvFn l a K ih iw oh ow x), .none) ∧
    ∀ g, layerBackward (.deconv l) (T3 g) (T3 x) (T3 (DeconvBridge.pre l K ih iw oh ow x)) (.ok .none) =
      .ok (T3 (bwdX l a K ih iw oh ow x g), .one (T4 (bwdKer l a K ih iw oh ow x g)), .one none) := by
  refine ⟨?_, fun g => ?_⟩
  · simp only [layerForward, DeconvBridge.forward_gen l a K hl ha x, hfl]
    rfl
  · simp only [layerBackward, DeconvBridge.backward_eq l a K hl ha x g (T3 g) rfl]

theorem real_deconv_flat (l : Deconv ℝ) (a : Act) (K : V (I4 kf kc kh kw)) (hl : IsDeconv l a K ih iw oh ow) (ha : a ≠ .softmax)
    (hfl : l.flatten = true) (x : V (I3 kc ih iw)) :
    layerForward (.deconv l) (T3 x) =
      .ok (T3 (DeconvBridge.pre l K ih iw oh ow x), vecT (flat (deconvFn l a K ih iw oh ow x)), .none) ∧
    ∀ g : Vec (kf * oh * ow), layerBackward (.deconv l) (vecT g) (T3 x) (T3 (DeconvBridge.pre l K ih iw oh ow x)) (.ok .none) =
      .ok (T3 (bwdX l a K ih iw oh ow x (unflat g)), .one (T4 (bwdKer l a K ih iw oh ow x (unflat g))), .one none) := by
  obtain ⟨hkf, hkc, hkh, hih, hoh⟩ := hl.pos
  refine ⟨?_, fun g => ?_⟩
  · simp only [layerForward, DeconvBridge.forward_gen l a K hl ha x, hfl, ↓reduceIte, flatten_T3 _ hkf hoh]
    rfl
  · simp only [layerBackward, DeconvBridge.backward_eq l a K hl ha x (unflat g) (vecT g) (getTriple_vecT_of hl.outputs g)]

theorem vjp_deconv (l : Deconv ℝ) (a : Act) (K : V (I4 kf kc kh kw)) (ha : a ≠ .softmax)
    (x : V (I3 kc ih iw)) (hk : ∀ i, NoKink a (DeconvBridge.pre l K ih iw oh ow x i)) :
    IsVJP (deconvFn l a K ih iw oh ow) x (bwdX l a K ih iw oh ow x) :=
  isVJP_act a ha (deconv_isVJP l kf kc kh kw ih iw oh ow (toList4 K) (toList3 x) x) hk

theorem vjp_deconv_flat (l : Deconv ℝ) (a : Act) (K : V (I4 kf kc kh kw)) (ha : a ≠ .softmax)
    (x : V (I3 kc ih iw)) (hk : ∀ i, NoKink a (DeconvBridge.pre l K ih iw oh ow x i)) :
    IsVJP (fun x => flat (deconvFn l a K ih iw oh ow x)) x
      (fun g => bwdX l a K ih iw oh ow x (unflat g)) :=
  IsVJP.comp (vjp_deconv l a K ha x hk) (flat_isVJP (deconvFn l a K ih iw oh ow x))

theorem vjp_deconv_kernels (l : Deconv ℝ) (a : Act) (K : V (I4 kf kc kh kw)) (ha : a ≠ .softmax)
    (x : V (I3 kc ih iw)) (hk : ∀ i, NoKink a (DeconvBridge.pre l K ih iw oh ow x i)) :
    IsVJP (fun K' => deconvFn l a K' ih iw oh ow x) K (bwdKer l a K ih iw oh ow x) :=
  isVJP_act a ha (deconv_kernel_isVJP l kf kc kh kw ih iw oh ow (toList3 x) (toList4 K) K) hk

end deconv

section pool
open MaxpoolVJP MaxpoolBridge MaxpoolLocal
variable {ic ih iw oh ow : ℕ}

/-- `MaxpoolVJP.routeV` to the arg-max positions recorded at `x` -/
noncomputable def poolBwd (l : Maxpool ℝ) (ih iw oh ow : ℕ) (x : V (I3 ic ih iw)) (g : V (I3 ic oh ow)) : V (I3 ic ih iw) :=
  routeV l (idxOf l ih iw oh ow x) ic ih iw oh ow g

/-- a max-pool has no parameters: `Maxpool.forward` returns its output in the pre-activation slot too, and
    `layerBackward` records the empty tensor `.one (Tensor.single [])` as its weight gradient -/
noncomputable def consPool {k : Idx} {ek : Enc k} (l : Maxpool ℝ) (ih iw : ℕ)
    (rest : Chain (iVol ic oh ow) (eVol ic oh ow) k ek) : Chain (iVol ic ih iw) (eVol ic ih iw) k ek :=
  .cons (.maxpool l) (poolFn l ih iw oh ow) (poolBwd l ih iw oh ow) (fun x => T3 (poolFn l ih iw oh ow x))
    (fun x => .max (idxOf l ih iw oh ow x)) (fun _ _ => (.one (Tensor.single []), .one none)) rest

noncomputable def consPoolFlat {k : Idx} {ek : Enc k} (l : Maxpool ℝ) (ih iw : ℕ)
    (rest : Chain (iVec (ic * oh * ow)) (eVec (ic * oh * ow)) k ek) : Chain (iVol ic ih iw) (eVol ic ih iw) k ek :=
  .cons (.maxpool l) (fun x => flat (poolFn l ih iw oh ow x)) (fun x g => poolBwd l ih iw oh ow x (unflat g))
    (fun x => T3 (poolFn l ih iw oh ow x)) (fun x => .max (idxOf l ih iw oh ow x))
    (fun _ _ => (.one (Tensor.single []), .one none)) rest

theorem real_pool (l : Maxpool ℝ) (hl : IsPool l ic ih iw oh ow) (hfl : l.flatten = false) (x : V (I3 ic ih iw)) :
    layerForward (.maxpool l) (T3 x) = .ok (T3 (poolFn l ih iw oh ow x), T3 (poolFn l ih iw oh ow x), .max (idxOf l ih iw oh ow x)) ∧
    ∀ g pre, layerBackward (.maxpool l) (T3 g) (T3 x) pre (.ok (.max (idxOf l ih iw oh ow x))) =
      .ok (T3 (poolBwd l ih iw oh ow x g), .one (Tensor.single []), .one none) := by
  refine ⟨?_, fun g pre => ?_⟩
  · simp only [layerForward, MaxpoolBridge.forward_gen l hl x, hfl]
    rfl
  · simp only [layerBackward, MaxpoolBridge.backward_eq l hl x g (T3 g) rfl, poolBwd]

theorem real_pool_flat (l : Maxpool ℝ) (hl : IsPool l ic ih iw oh ow) (hfl : l.flatten = true) (x : V (I3 ic ih iw)) :
    layerForward (.maxpool l) (T3 x) =
      .ok (T3 (poolFn l ih iw oh ow x), vecT (flat (poolFn l ih iw oh ow x)), .max (idxOf l ih iw oh ow x)) ∧
    ∀ (g : Vec (ic * oh * ow)) pre, layerBackward (.maxpool l) (vecT g) (T3 x) pre (.ok (.max (idxOf l ih iw oh ow x))) =
      .ok (T3 (poolBwd l ih iw oh ow x (unflat g)), .one (Tensor.single []), .one none) := by
  obtain ⟨hic, hih, hiw⟩ := hl.pos
  refine ⟨?_, fun g pre => ?_⟩
  · simp only [layerForward, MaxpoolBridge.forward_gen l hl x, hfl, ↓reduceIte, flatten_T3 _ hic hl.oh_pos]
  · simp only [layerBackward, MaxpoolBridge.backward_eq l hl x (unflat g) (vecT g) (getTriple_vecT_of hl.outputs g), poolBwd]

theorem vjp_pool_flat (l : Maxpool ℝ) (hl : IsPool l ic ih iw oh ow) (x : V (I3 ic ih iw)) (hnt : NoTies l ih iw oh ow x) :
    IsVJP (fun x => flat (poolFn l ih iw oh ow x)) x
      (fun g => poolBwd l ih iw oh ow x (unflat g)) :=
  IsVJP.comp (pool_isVJP l hl x hnt) (flat_isVJP (poolFn l ih iw oh ow x))

end pool

noncomputable def stackChain : {n k : ℕ} → Stack n k → Chain (iVec n) (eVec n) (iVec k) (eVec k)
  | _, _, .nil n => .nil (iVec n) (eVec n)
  | _, _, .cons a W b rest => consDense (denseLayer a W b) a W b (stackChain rest)

theorem stackChain_layers : ∀ {n k : ℕ} (s : Stack n k), LayerChain.layers (stackChain s) = s.layers := by
  intro n k s
  induction s with
  | nil _ => rfl
  | cons a W b rest ih => simp [stackChain, consDense, LayerChain.layers, Stack.layers, ih]

theorem stackChain_real : ∀ {n k : ℕ} (s : Stack n k) (x : Vec n), s.Valid → Real (stackChain s) x := by
  intro n k s
  induction s with
  | nil _ => intro _ _; trivial
  | cons a W b rest ih =>
    intro x ⟨ha, hn, hm, hrest⟩
    exact .cons (real_dense (denseLayer a W b) a W b (denseLayer_isDense a W b) ha hm hn x) (ih _ hrest)

theorem stackChain_ok : ∀ {n k : ℕ} (s : Stack n k) (x : Vec n), s.Valid → s.NoKinks x → (gnet (stackChain s)).Ok x := by
  intro n k s
  induction s with
  | nil _ => intro _ _ _; trivial
  | cons a W b rest ih =>
    intro x ⟨ha, _, _, hrest⟩ hk
    exact ⟨vjp_dense a W b ha x hk.1, ih _ hrest hk.2⟩

theorem stack_gnet_fwd : ∀ {n k : ℕ} (s : Stack n k) (z : Vec n), (gnet (stackChain s)).fwd z = s.net.fwd z := by
  intro n k s
  induction s with
  | nil _ => intro _; rfl
  | cons a W b rest ih => intro z; exact ih _

theorem stack_gnet_bwd : ∀ {n k : ℕ} (s : Stack n k) (z : Vec n) (g : Vec k), (gnet (stackChain s)).bwd z g = s.net.bwd z g := by
  intro n k s
  induction s with
  | nil _ => intro _ _; rfl
  | cons a W b rest ih =>
    intro z g
    simp only [stackChain, consDense, gnet, GNet.bwd, Stack.net, Net.bwd, denseBwd]
    rw [ih]

theorem stackChain_trace : ∀ {n k : ℕ} (s : Stack n k) (x : Vec n),
    pres (stackChain s) x = s.pres x ∧ acts (stackChain s) x = s.acts x ∧
    recs (stackChain s) x = s.layers.map (fun _ => Recorded.none) := by
  intro n k s
  induction s with
  | nil _ => intro _; exact ⟨rfl, rfl, rfl⟩
  | cons a W b rest ih =>
    intro x
    obtain ⟨h1, h2, h3⟩ := ih (denseFn (Act.f a) W b x)
    simp [stackChain, consDense, pres, acts, recs, Stack.pres, Stack.acts, Stack.layers, eVec, h1, h2, h3]

end ChainLinks
