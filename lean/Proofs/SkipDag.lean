import Proofs.VJP

/-!
# Any number of additive skip connections: the reverse sweep is the transposed Jacobian (C16)

Layers `f 0, f 1, …` between vectors of one index type, with a skip table `S`: when `S i = some s` (`s ≤ i`)
layer `i` processes its ordinary input *plus* the ordinary input of layer `s`.  Chains, several connections out
of one source, nested and overlapping connections and a connection from a layer to itself are all instances.
`sweep` is the reverse walk of `Network::backward`: from the last layer to the first it computes the gradient
`δ i` with respect to the input layer `i` *processed* and hands on `δ i + Σ { δ t | t a target of source i }`.
That it ends with the transposed Jacobian of the whole function, for every depth and every table, is
`sweep_isVJP` in `SkipDagP.lean`.
-/

open BigOperators

namespace SkipDag
open VJP

variable {ι : Type}

/-- `b i p g`: the backward function of layer `i` at processed input `p`, handed `g` -/
structure Net (ι : Type) where
  f : Nat → V ι → V ι
  b : Nat → V ι → V ι → V ι
  S : Nat → Option Nat

/-- `U i x`: the ordinary input of layer `i` (the output of layer `i - 1`) on network input `x`.  An entry
    `S i = some s` with `s > i` contributes 0: the guard serves the recursion.  The model refuses forward
    connections, and every theorem assumes `s ≤ i`. -/
def U (N : Net ι) : Nat → V ι → V ι
  | 0, x => x
  | i + 1, x => N.f i (U N i x + (match N.S i with
      | some s => if _ : s ≤ i then U N s x else 0
      | none => 0))

def skipv (N : Net ι) (i : Nat) (x : V ι) : V ι :=
  match N.S i with
  | some s => if s ≤ i then U N s x else 0
  | none => 0

/-- the input layer `i` processes -/
def P (N : Net ι) (i : Nat) (x : V ι) : V ι := U N i x + skipv N i x

theorem U_succ (N : Net ι) (i : Nat) (x : V ι) : U N (i + 1) x = N.f i (P N i x) := by
  rw [U]
  simp only [P, skipv]
  congr 2

theorem P_of_none (N : Net ι) (i : Nat) (x : V ι) (h : N.S i = none) : P N i x = U N i x := by
  simp only [P, skipv, h, add_zero]

theorem P_of_some (N : Net ι) (i s : Nat) (x : V ι) (h : N.S i = some s) (hs : s ≤ i) : P N i x = U N i x + U N s x := by
  simp only [P, skipv, h, hs, if_true]

def Ok [Fintype ι] (N : Net ι) (n : Nat) (x : V ι) : Prop := ∀ i, i < n → IsVJP (N.f i) (P N i x) (N.b i (P N i x))

/-- the sweep after `k` layers (from layer `n - 1` down to `n - k`): the gradient handed on, and the
    gradients with respect to the inputs the layers visited so far processed.  `tg s` lists the targets
    of source `s`. -/
def sweep (N : Net ι) (tg : Nat → List Nat) (x : V ι) (n : Nat) (g : V ι) : Nat → V ι × (Nat → V ι)
  | 0 => (g, fun _ => 0)
  | k + 1 =>
    let st := sweep N tg x n g k
    let i := n - (k + 1)
    let δ := N.b i (P N i x) st.1
    let D := fun t => if t = i then δ else st.2 t
    (δ + ((tg i).map D).sum, D)

theorem sweep_succ_fst (N : Net ι) (tg : Nat → List Nat) (x : V ι) (n : Nat) (g : V ι) (k : Nat) :
    (sweep N tg x n g (k + 1)).1 =
      N.b (n - (k + 1)) (P N (n - (k + 1)) x) (sweep N tg x n g k).1 +
        ((tg (n - (k + 1))).map (sweep N tg x n g (k + 1)).2).sum := rfl

theorem sweep_D_self (N : Net ι) (tg : Nat → List Nat) (x : V ι) (n : Nat) (g : V ι) (k : Nat) :
    (sweep N tg x n g (k + 1)).2 (n - (k + 1)) = N.b (n - (k + 1)) (P N (n - (k + 1)) x) (sweep N tg x n g k).1 :=
  if_pos rfl

theorem sweep_D_other {N : Net ι} {tg : Nat → List Nat} {x : V ι} {n : Nat} {g : V ι} {k t : Nat} (h : t ≠ n - (k + 1)) :
    (sweep N tg x n g (k + 1)).2 t = (sweep N tg x n g k).2 t :=
  if_neg h

theorem sweep_stable (N : Net ι) (tg : Nat → List Nat) (x : V ι) (n : Nat) (g : V ι) (r : Nat) :
    ∀ k, r + 1 ≤ k → k ≤ n → (sweep N tg x n g k).2 (n - (r + 1)) = (sweep N tg x n g (r + 1)).2 (n - (r + 1)) := by
  intro k hk
  induction k, hk using Nat.le_induction with
  | base => exact fun _ => rfl
  | succ k hk ih =>
    intro hn
    rw [sweep_D_other (by omega)]
    exact ih (Nat.le_of_succ_le hn)

/-- layer `c` is visited in step `n - (c + 1) + 1` -/
theorem step_visits {c n : Nat} (h : c < n) : n - (n - (c + 1) + 1) = c := by
  rw [Nat.sub_add_eq, Nat.sub_sub_self h, Nat.succ_sub_one]

def Targets (N : Net ι) (n : Nat) (tg : Nat → List Nat) : Prop :=
  ∀ s, (tg s).Nodup ∧ ∀ t, t ∈ tg s ↔ (t < n ∧ N.S t = some s)

theorem targets_sum (N : Net ι) (n : Nat) (tg : Nat → List Nat) (htg : Targets N n tg) (s : Nat) (F : Nat → V ι) :
    ((tg s).map F).sum = ∑ t ∈ Finset.range n, if N.S t = some s then F t else 0 := by
  classical
  rw [← Finset.sum_filter, ← List.sum_toFinset F (htg s).1]
  apply Finset.sum_congr _ (fun _ _ => rfl)
  ext t
  simp [(htg s).2 t]

end SkipDag
