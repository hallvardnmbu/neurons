import Proofs.Encodings

/-!
# Flattening a `c × h × w` tensor and reading a flat vector back as one: re-indexings along the
row-major bijection (C01, C16)
-/

namespace Flat3
open VJP ConvVJP ConvBridge DenseBridge L

/-- row-major position ↔ (channel, row, column) -/
def e (c h w : ℕ) : Fin (c * h * w) ≃ I3 c h w :=
  finProdFinEquiv.symm.trans ((Equiv.prodCongr finProdFinEquiv.symm (Equiv.refl _)).trans (Equiv.prodAssoc _ _ _))

theorem e_symm_val {c h w : ℕ} (q : I3 c h w) : ((e c h w).symm q).val = (q.1.val * h + q.2.1.val) * w + q.2.2.val := by
  obtain ⟨a, i, j⟩ := q
  simp only [e, finProdFinEquiv, Equiv.symm_mk, Equiv.symm_trans, Equiv.prodCongr_symm, Equiv.refl_symm,
    Equiv.trans_apply, Equiv.prodAssoc_symm_apply, Equiv.prodCongr_apply, Equiv.coe_fn_mk, Equiv.coe_refl,
    Prod.map_apply, id_eq]
  ring

theorem e_apply {c h w : ℕ} (a : Fin c) (i : Fin h) (j : Fin w) (hlt : (a.val * h + i.val) * w + j.val < c * h * w) :
    e c h w ⟨(a.val * h + i.val) * w + j.val, hlt⟩ = (a, i, j) := by
  apply (e c h w).symm.injective
  rw [Equiv.symm_apply_apply]
  apply Fin.ext
  rw [e_symm_val]

theorem flatten3_toList3 {c h w : ℕ} (v : V (I3 c h w)) :
    flatten3 (toList3 v) = List.ofFn (fun k : Fin (c * h * w) => v (e c h w k)) := by
  rw [List.ofFn_mul, List.ofFn_mul (m := c) (n := h), List.flatten_flatten]
  simp only [flatten3, toList3, List.map_ofFn, Function.comp_def]
  -- both sides are three nested `ofFn`s, the outer two flattened: entry by entry
  refine congrArg List.flatten (congrArg List.ofFn (funext fun a => congrArg List.flatten (congrArg List.ofFn
    (funext fun i => congrArg List.ofFn (funext fun j => congrArg v (e_apply a i j _).symm)))))

variable {c h w : ℕ}

noncomputable def flat (v : V (I3 c h w)) : Vec (c * h * w) := fun k => v (e c h w k)

noncomputable def unflat (u : Vec (c * h * w)) : V (I3 c h w) := fun q => u ((e c h w).symm q)

theorem flat_unflat (u : Vec (c * h * w)) : flat (unflat u) = u := by
  funext k; simp [flat, unflat]

theorem unflat_flat (v : V (I3 c h w)) : unflat (flat v) = v := by
  funext q; simp [flat, unflat]

/-- **`Tensor::flatten` of a 3-D tensor is the re-indexing `flat`** -/
theorem flatten_T3 (v : V (I3 c h w)) (hc : 0 < c) (hh : 0 < h) : (T3 v).flatten = .ok (vecT (flat v)) := by
  obtain ⟨r, m, rest, he, h1, h2⟩ := dims3_cons (toList3_dims v) hc hh
  have hf := flatten3_toList3 v
  unfold Tensor.flatten T3
  simp only []
  rw [he] at hf ⊢
  simp only [hf, List.length_ofFn]
  rfl

/-- **reading a flat tensor as `c × h × w` (`get_triple`) is the re-indexing `unflat`** -/
theorem getTriple_vecT (u : Vec (c * h * w)) : (vecT u).getTriple (.triple c h w) = .ok (toList3 (unflat u)) := by
  have hu : List.ofFn u = flatten3 (toList3 (unflat u)) := by
    rw [flatten3_toList3]
    congr 1
    funext k
    simp [unflat]
  simp only [Tensor.getTriple, vecT, hu, L.toTriple_flatten3 (toList3_dims _)]

theorem getTriple_vecT_of {s : Shape} (hs : s = .triple c h w) (u : Vec (c * h * w)) :
    (vecT u).getTriple s = .ok (toList3 (unflat u)) :=
  hs ▸ getTriple_vecT u

/-- both are re-indexings along a bijection: each is the other's transposed Jacobian -/
theorem flat_isVJP (x : V (I3 c h w)) : IsVJP (flat (c := c) (h := h) (w := w)) x unflat :=
  isVJP_reindex (e c h w) x

theorem unflat_isVJP (u : Vec (c * h * w)) : IsVJP (unflat (c := c) (h := h) (w := w)) u flat := by
  have := isVJP_reindex (e c h w).symm u
  simp only [Equiv.symm_symm] at this
  exact this

end Flat3
