import Proofs.Scatter

/-!
# Max-pool forward: the scan of one window, and the assembly of the windows' results (C02, C01)

`Maxpool.window` is one walk over the window's offsets that keeps the largest element seen and its position.
`Maxpool.pool` is a fold of *assignments* `y[c][h / s₀][w / s₁] = window(c, h, w)` over channels × row offsets ×
column offsets.  Because the offsets are multiples of the strides, the value written is a function of the target
cell, so the order of the writes does not matter.
-/

namespace MaxpoolForward
open Scalar RealScalar Scatter

section window
variable (l : Maxpool ℝ) (x : V3 ℝ) (c h w ih iw : ℕ)

/-- one element of the scan, at offset `t` in the window -/
noncomputable def stepIn (acc : ℝ × (ℕ × ℕ)) (t : ℕ × ℕ) : ℝ × (ℕ × ℕ) :=
  if h + t.1 < ih ∧ w + t.2 < iw then
    (if Scalar.lt acc.1 (L.get3D 0 x c (h + t.1) (w + t.2)) then (L.get3D 0 x c (h + t.1) (w + t.2), (h + t.1, w + t.2)) else acc)
  else acc

/-- the two loops as one walk over the window's offsets -/
theorem window_eq :
    Maxpool.window l x c h w ih iw =
      ((List.range l.kernel.1).flatMap fun k => (List.range l.kernel.2).map fun li => (k, li)).foldl
        (stepIn x c h w ih iw) (Scalar.minVal, (0, 0)) := by
  rw [List.foldl_flatMap]
  simp only [List.foldl_map]
  rfl

theorem mem_offsets {K1 K2 k li : ℕ} :
    (k, li) ∈ ((List.range K1).flatMap fun k => (List.range K2).map fun li => (k, li)) ↔ k < K1 ∧ li < K2 := by
  simp

theorem stepIn_mono (t : ℕ × ℕ) (acc : ℝ × (ℕ × ℕ)) :
    acc.1 ≤ (stepIn x c h w ih iw acc t).1 ∧
    (h + t.1 < ih ∧ w + t.2 < iw → L.get3D 0 x c (h + t.1) (w + t.2) ≤ (stepIn x c h w ih iw acc t).1) := by
  unfold stepIn
  by_cases hg : h + t.1 < ih ∧ w + t.2 < iw
  · rw [if_pos hg]
    by_cases hlt : acc.1 < L.get3D 0 x c (h + t.1) (w + t.2)
    · rw [if_pos ((lt_iff _ _).mpr hlt)]
      exact ⟨hlt.le, fun _ => le_refl _⟩
    · rw [if_neg fun e => hlt ((lt_iff _ _).mp e)]
      exact ⟨le_refl _, fun _ => not_lt.mp hlt⟩
  · rw [if_neg hg]
    exact ⟨le_refl _, fun e => absurd e hg⟩

end window

/-- the visited `(channel, row offset, column offset)` triples in loop order -/
def visits (oc : Nat) (hs ws : List Nat) : List (Nat × Nat × Nat) :=
  (List.range oc).flatMap (fun c => hs.flatMap (fun h => ws.map (fun w => (c, h, w))))

theorem mem_stepBy {n s h : Nat} : h ∈ L.stepBy n s ↔ h < n ∧ h % s = 0 := by
  simp [L.stepBy]

/-- windows at multiples of the strides, each written to the cell `(c, h / s₀, w / s₁)`: the cell
    `(c, i, j)` holds the value of the window at `(i·s₀, j·s₁)` -/
theorem strided_assign_get {β : Type} (d : β) (val : ℕ → ℕ → ℕ → β) (s0 s1 oc oh ow a b : ℕ) (v0 : β)
    (hs0 : 0 < s0) (hs1 : 0 < s1)
    (hfh : ∀ h ∈ L.stepBy (a + 1) s0, h / s0 < oh) (hfw : ∀ w ∈ L.stepBy (b + 1) s1, w / s1 < ow)
    (c i j : ℕ) (hc : c < oc) (hi : i * s0 ≤ a) (hj : j * s1 ≤ b) :
    L.get3D d ((visits oc (L.stepBy (a + 1) s0) (L.stepBy (b + 1) s1)).foldl (fun acc (p : ℕ × ℕ × ℕ) =>
        L.mod3 (fun _ => val p.1 p.2.1 p.2.2) acc p.1 (p.2.1 / s0) (p.2.2 / s1))
        (L.replicate3 oc oh ow v0)) c i j = val c (i * s0) (j * s1) := by
  let G : ℕ × ℕ × ℕ → β := fun q => val q.1 (q.2.1 * s0) (q.2.2 * s1)
  let pos : ℕ × ℕ × ℕ → ℕ × ℕ × ℕ := fun p => (p.1, p.2.1 / s0, p.2.2 / s1)
  have hmem : ∀ p ∈ visits oc (L.stepBy (a + 1) s0) (L.stepBy (b + 1) s1),
      p.1 < oc ∧ p.2.1 ∈ L.stepBy (a + 1) s0 ∧ p.2.2 ∈ L.stepBy (b + 1) s1 := by
    intro p hp
    simp only [visits, List.mem_flatMap, List.mem_map, List.mem_range] at hp
    obtain ⟨c', hc', h', hh', w', hw', rfl⟩ := hp
    exact ⟨hc', hh', hw'⟩
  -- the offsets are multiples of the strides, so the value written is a function of the target cell
  rw [L.foldl_congr_mem (g := fun acc u => L.mod3 (fun _ => G (pos u)) acc (pos u).1 (pos u).2.1 (pos u).2.2) (by
    intro p hp acc
    obtain ⟨_, h1, h2⟩ := hmem p hp
    rw [mem_stepBy] at h1 h2
    simp only [G, pos, Nat.div_mul_cancel (Nat.dvd_of_mod_eq_zero h1.2), Nat.div_mul_cancel (Nat.dvd_of_mod_eq_zero h2.2)]),
    assign_get d pos G _ _ c i j (fun u hu => inB_replicate _ (hmem u hu).1
      (hfh _ (hmem u hu).2.1) (hfw _ (hmem u hu).2.2)), if_pos]
  refine ⟨(c, i * s0, j * s1), ?_, ?_⟩
  · simp only [visits, List.mem_flatMap, List.mem_map, List.mem_range]
    exact ⟨c, hc, i * s0, mem_stepBy.mpr ⟨Nat.lt_succ_of_le hi, Nat.mul_mod_left _ _⟩,
      j * s1, mem_stepBy.mpr ⟨Nat.lt_succ_of_le hj, Nat.mul_mod_left _ _⟩, rfl⟩
  · simp only [pos, Nat.mul_div_cancel _ hs0, Nat.mul_div_cancel _ hs1]

theorem pool_eq (l : Maxpool ℝ) (x : V3 ℝ) (ih iw oc oh ow : Nat) (hs ws : List Nat) :
    Maxpool.pool l x ih iw oc oh ow hs ws =
      ((visits oc hs ws).foldl (fun acc (p : Nat × Nat × Nat) =>
        L.mod3 (fun _ => (Maxpool.window l x p.1 p.2.1 p.2.2 ih iw).1) acc p.1 (p.2.1 / l.stride.1) (p.2.2 / l.stride.2))
        (L.replicate3 oc oh ow 0),
       (visits oc hs ws).foldl (fun acc (p : Nat × Nat × Nat) =>
        L.mod3 (fun _ => [(Maxpool.window l x p.1 p.2.1 p.2.2 ih iw).2]) acc p.1 (p.2.1 / l.stride.1) (p.2.2 / l.stride.2))
        (L.replicate3 oc oh ow [(0, 0)])) := by
  refine Eq.trans ?_ (L.foldl_pair (_, _))
  simp only [Maxpool.pool, visits, List.foldl_flatMap, List.foldl_map]
  rfl

end MaxpoolForward

namespace MaxpoolAssembly
open Scatter

/-- `Scatter.assign_get` at `ℝ` with default `0` -/
theorem assign_get {γ : Type} (pos : γ → Nat × Nat × Nat) (G : Nat × Nat × Nat → ℝ) :
    ∀ (us : List γ) (y : V3 ℝ) (c i j : Nat),
    (∀ u ∈ us, InBounds y (pos u).1 (pos u).2.1 (pos u).2.2) →
    L.get3D 0 (us.foldl (fun acc u => L.mod3 (fun _ => G (pos u)) acc (pos u).1 (pos u).2.1 (pos u).2.2) y) c i j =
      if ∃ u ∈ us, pos u = (c, i, j) then G (c, i, j) else L.get3D 0 y c i j :=
  Scatter.assign_get 0 pos G

end MaxpoolAssembly
