import Proofs.SkipWalk
import Proofs.SkipNet
import Proofs.ChainLinks

/-!
# What the instances of the skip-connection theorems share (C16)

The network theorems of `SkipWalk` and `SkipNet` in the form an instance uses them: what `head` and `tail` compute
is named by the caller, so that the conclusion speaks of the caller's own functions.  Then what is concrete: the vector and
volume encodings can be added (`encAdd_vec`, `encAdd_vol`), and square dense layers and shape-preserving convolutions are
links of a stretch.  `SkipWalk`, `SkipNet` and what they import know chains and encodings only as variables; the layer kinds
(`ChainLinks`) come in here.
-/

namespace SkipWalk
open Network Scalar VJP LayerChain

variable {a m b d c : Idx} {ea : Enc a} {em : Enc m} {eb : Enc b} {ed : Enc d} {ec : Enc c} {head : Chain a ea m em}
  {lm : Layer ℝ} {fm : V m.T → V b.T} {bm : V m.T → V b.T → V m.T} {prem : V m.T → Tensor ℝ} {rcm : V m.T → Recorded ℝ}
  {wgm : V m.T → V b.T → WGrad ℝ × BGrad ℝ} {midr : Chain b eb m em}
  {lt : Layer ℝ} {ft : V m.T → V d.T} {bt : V m.T → V d.T → V m.T} {pret : V m.T → Tensor ℝ} {rct : V m.T → Recorded ℝ}
  {wgt : V m.T → V d.T → WGrad ℝ × BGrad ℝ} {tailr : Chain d ed c ec} {n : Network ℝ}

/-- `skip_network_gradient` for an instance that says in its own terms what the three parts compute
    (`headF`, `midF`, `tailF`) -/
theorem skip_network_gradient' (hn : IsSkipNet em head lm fm bm prem rcm wgm midr lt ft bt pret rct wgt tailr n)
    (he : EncAdd em) (x : V a.T) {headF : V a.T → V m.T} (hH : ∀ z, (gnet head).fwd z = headF z)
    {midF : V m.T → V m.T} (hM : ∀ u, (gnet (midC em lm fm bm prem rcm wgm midr)).fwd u = midF u)
    {tailF : V m.T → V c.T} (hT : ∀ u, (gnet (tailC em lt ft bt pret rct wgt tailr)).fwd u = tailF u)
    (hrh : Real head x) (hrm : Real (midC em lm fm bm prem rcm wgm midr) (headF x))
    (hrt : Real (tailC em lt ft bt pret rct wgt tailr) (midF (headF x) + headF x))
    (hh : (gnet head).Ok x) (hm : (gnet (midC em lm fm bm prem rcm wgm midr)).Ok (headF x))
    (ht : (gnet (tailC em lt ft bt pret rct wgt tailr)).Ok (midF (headF x) + headF x))
    (ℓ : V c.T → ℝ) (g : V c.T) (hg : IsGrad ℓ (tailF (midF (headF x) + headF x)) g) :
    ∃ t ws bs gs γ,
      n.forward (ea x) = .ok t ∧ t.act.getLast? = some (ec (tailF (midF (headF x) + headF x))) ∧
      n.backward (ec g) t = .ok (ws, bs, gs) ∧ gs.getLast? = some (ea γ) ∧
      IsGrad (ℓ ∘ fun z => tailF (midF (headF z) + headF z)) x γ := by
  obtain rfl := funext hH
  obtain rfl := funext hM
  obtain rfl := funext hT
  exact skip_network_gradient em head lm fm bm prem rcm wgm midr lt ft bt pret rct wgt tailr n hn he x hrh hrm hrt hh hm ht ℓ g hg

open ChainLinks DenseBridge in
theorem encAdd_vec (n : ℕ) : EncAdd (eVec n) where
  add u v := by
    simp only [eVec, Tensor.add, Tensor.zipOp, vecT, ne_eq, not_true_eq_false, ↓reduceIte, zip1_ofFn]
    rfl
  shape u v := rfl
  reshape u v := rfl

open ChainLinks ConvVJP ConvBridge in
theorem encAdd_vol (c h w : ℕ) : EncAdd (eVol c h w) where
  add u v := by
    have hz := L.zipWith3_eq_zip3 (· + ·) (toList3_dims u) (toList3_dims v)
    simp only [eVol, T3, Tensor.add, Tensor.zipOp, ne_eq, not_true_eq_false, ↓reduceIte, ← hz]
    congr 3
    simp only [toList3, OfFn.zipWith_ofFn]
    rfl
  shape u v := rfl
  reshape u v := by
    simp only [eVol, T3, Tensor.reshape, Tensor.getFlat, ne_eq, not_true_eq_false, ↓reduceIte,
      L.toTriple_flatten3 (toList3_dims u)]

end SkipWalk

namespace SkipNet
open Network Scalar VJP Walk LoopSpec DenseStack LayerChain SkipWalk ChainLinks DenseBridge

section network
variable {a m c : Idx} {ea : Enc a} {em : Nat → Enc m} {ec : Enc c} {head : Chain a ea m (em 0)} {body : List (Link m)}
  {tbl : List (Nat × Nat)} {tail : Chain m (em body.length) c ec} {n : Network ℝ}

/-- `dag_network_gradient` and `dag_parameter_gradient` in one statement, for an instance that says in its own terms what
    `head` and `tail` compute (`headF`, `tailF`) and how long the stretch is (`L`): the gradient of the objective in the input
    and, for every layer `c'` of the stretch, the recorded weight / bias gradients, formed from the gradient `δ c'` handed to
    that layer, which any parameter-VJP `bθ` of the layer turns into the gradient of the objective in its parameters. -/
theorem dag_network_gradients (hn : IsDagNet head body tbl tail n)
    (hcomp : ∀ t s, Assoc.find? tbl t = some s → Compat (em t) (em s)) (x : V a.T)
    {headF : V a.T → V m.T} (hH : ∀ z, (gnet head).fwd z = headF z) {L : Nat} (hL : body.length = L)
    {tailF : V m.T → V c.T} (hT : ∀ u, (gnet tail).fwd u = tailF u)
    (hrh : Real head x)
    (hrb : ∀ j (lk : Link m), body[j]? = some lk → lk.Real (em j) (em (j + 1)) (SkipDag.P (dagNet body tbl) j (headF x)))
    (hrt : Real tail (SkipDag.U (dagNet body tbl) L (headF x)))
    (hh : (gnet head).Ok x)
    (hb : ∀ j (lk : Link m), body[j]? = some lk →
      IsVJP lk.f (SkipDag.P (dagNet body tbl) j (headF x)) (lk.b (SkipDag.P (dagNet body tbl) j (headF x))))
    (ht : (gnet tail).Ok (SkipDag.U (dagNet body tbl) L (headF x)))
    (ℓ : V c.T → ℝ) (g : V c.T) (hg : IsGrad ℓ (tailF (SkipDag.U (dagNet body tbl) L (headF x))) g) :
    ∃ t ws bs gs γ, ∃ δ : Nat → V m.T,
      n.forward (ea x) = .ok t ∧ t.act.getLast? = some (ec (tailF (SkipDag.U (dagNet body tbl) L (headF x)))) ∧
      n.backward (ec g) t = .ok (ws, bs, gs) ∧ gs.getLast? = some (ea γ) ∧
      IsGrad (ℓ ∘ fun z => tailF (SkipDag.U (dagNet body tbl) L (headF z))) x γ ∧
      ∀ c' (lk : Link m), body[c']? = some lk →
        ws[(LayerChain.layers tail).length + (L - (c' + 1))]? = some (lk.wg (SkipDag.P (dagNet body tbl) c' (headF x)) (δ c')).1 ∧
        bs[(LayerChain.layers tail).length + (L - (c' + 1))]? = some (lk.wg (SkipDag.P (dagNet body tbl) c' (headF x)) (δ c')).2 ∧
        ∀ {π : Type} [Fintype π] (lay : V π → V m.T) (bθ : V m.T → V π) (θ₀ : V π),
          lay θ₀ = lk.f (SkipDag.P (dagNet body tbl) c' (headF x)) → IsVJP lay θ₀ bθ →
          tailF (SkipDagP.U (SkipDagP.paramNet (dagNet body tbl) (headF x) c' lay bθ) L θ₀) = tailF (SkipDag.U (dagNet body tbl) L (headF x)) ∧
          IsGrad (ℓ ∘ fun θ => tailF (SkipDagP.U (SkipDagP.paramNet (dagNet body tbl) (headF x) c' lay bθ) L θ)) θ₀ (bθ (δ c')) := by
  obtain rfl := funext hH
  obtain rfl := funext hT
  subst hL
  obtain ⟨t, ws, bs, gs, γ, h1, h2, h3, h4, h5, hw⟩ :=
    dag_network_gradient head body tbl tail n hn hcomp x hrh hrb hrt hh hb ht ℓ g hg
  refine ⟨t, ws, bs, gs, γ, fun c' => handedTo head body tbl tail x g (body.length - (c' + 1)), h1, h2, h3, h4, h5,
    fun c' lk hlk => ?_⟩
  have hc : c' + 1 ≤ body.length := (List.getElem?_eq_some_iff.mp hlk).1
  -- walk position `r = body.length - (c' + 1)` is layer `c'`
  have hidx : body.length - (body.length - (c' + 1) + 1) = c' := SkipDag.step_visits hc
  have hw' := hw (body.length - (c' + 1)) lk (Nat.sub_lt (Nat.zero_lt_of_lt hc) (Nat.succ_pos c')) (hidx.symm ▸ hlk)
  rw [hidx] at hw'
  exact ⟨hw'.1, hw'.2, fun lay bθ θ₀ hlay hθ =>
    dag_parameter_gradient head body tbl tail n hn x hb ht c' hc lk hlk lay bθ θ₀ hlay hθ ℓ g hg⟩

end network

noncomputable def denseLink {m : ℕ} (q : Act × V (Fin m × Fin m) × Vec m) : Link (iVec m) where
  l := .dense (denseLayer q.1 q.2.1 q.2.2)
  f := denseFn (Act.f q.1) q.2.1 q.2.2
  b := denseBwd q.1 q.2.1 q.2.2
  pre := fun x => vecT (densePre q.2.1 q.2.2 x)
  rc := fun _ => .none
  wg := denseWG q.1 q.2.1 q.2.2

theorem denseLink_real {m : ℕ} (q : Act × V (Fin m × Fin m) × Vec m) (ha : q.1 ≠ .softmax) (hm : 0 < m) (p : Vec m) :
    (denseLink q).Real (eVec m) (eVec m) p :=
  real_dense (denseLayer q.1 q.2.1 q.2.2) q.1 q.2.1 q.2.2 (denseLayer_isDense q.1 q.2.1 q.2.2) ha hm hm p

theorem denseLink_vjp {m : ℕ} (q : Act × V (Fin m × Fin m) × Vec m) (ha : q.1 ≠ .softmax) (p : Vec m)
    (hk : ∀ i, NoKink q.1 (densePre q.2.1 q.2.2 p i)) :
    IsVJP (denseLink q).f p ((denseLink q).b p) :=
  vjp_dense q.1 q.2.1 q.2.2 ha p hk

open ConvVJP ConvBridge ConvNet in
noncomputable def convLink {f kh kw h w : ℕ} (q : Conv ℝ × Act × V (I4 f f kh kw)) : Link (iVol f h w) where
  l := .conv q.1
  f := convFn q.1 q.2.1 q.2.2 h w h w
  b := convBwdX q.1 q.2.1 q.2.2 h w h w
  pre := fun x => T3 (ConvBridge.pre q.1 q.2.2 h w h w x)
  rc := fun _ => .none
  wg := fun x g => (.one (T4 (convBwdKer q.1 q.2.1 q.2.2 h w h w x g)), .one none)

open ConvVJP ConvBridge ConvNet in
theorem convLink_real {f kh kw h w : ℕ} (q : Conv ℝ × Act × V (I4 f f kh kw)) (hl : IsConv q.1 q.2.1 q.2.2 h w h w)
    (ha : q.2.1 ≠ .softmax) (hf : q.1.flatten = false) (p : V (I3 f h w)) :
    (convLink (h := h) (w := w) q).Real (eVol f h w) (eVol f h w) p :=
  real_conv q.1 q.2.1 q.2.2 hl ha hf p

open ConvVJP ConvBridge ConvNet in
theorem convLink_vjp {f kh kw h w : ℕ} (q : Conv ℝ × Act × V (I4 f f kh kw)) (hl : IsConv q.1 q.2.1 q.2.2 h w h w)
    (ha : q.2.1 ≠ .softmax) (p : V (I3 f h w)) (hk : ∀ i, NoKink q.2.1 (ConvBridge.pre q.1 q.2.2 h w h w p i)) :
    IsVJP (convLink (h := h) (w := w) q).f p ((convLink (h := h) (w := w) q).b p) :=
  vjp_conv q.1 q.2.1 q.2.2 hl ha p hk

end SkipNet
