import Proofs.Zip
import Proofs.Basics

/-!
# Index updates keep the extents: what the scatter loops of the spatial layers write into keeps its announced shape
-/

namespace Dims
open L

variable {β : Type}

theorem forall_mem_modAt {f : β → β} {P : β → Prop} (hf : ∀ x, P x → P (f x)) {l : List β} {i : Nat}
    (h : ∀ x ∈ l, P x) : ∀ x ∈ modAt f l i, P x := by
  intro x hx
  rw [modAt_eq_modify] at hx
  obtain ⟨n, hn, rfl⟩ := List.getElem_of_mem hx
  rw [List.getElem_modify]
  split
  · exact hf _ (h _ (List.getElem_mem _))
  · exact h _ (List.getElem_mem _)

theorem dims2_modAt {g : β → β} {m : List (List β)} {hh ww i j : Nat} (hm : Dims2 m hh ww) :
    Dims2 (modAt (fun r => modAt g r j) m i) hh ww :=
  ⟨(length_modAt ..).trans hm.1,
    forall_mem_modAt (P := fun r : List β => r.length = ww) (fun _ hr => (length_modAt ..).trans hr) hm.2⟩

theorem dims3_mod3 {g : β → β} {y : List (List (List β))} {c hh ww a i j : Nat} (hy : Dims3 y c hh ww) :
    Dims3 (mod3 g y a i j) c hh ww :=
  ⟨(length_modAt ..).trans hy.1, forall_mem_modAt (P := (Dims2 · hh ww)) (fun _ => dims2_modAt) hy.2⟩

theorem dims4_mod4 {g : β → β} {y : List (List (List (List β)))} {k c hh ww f a i j : Nat} (hy : Dims4 y k c hh ww) :
    Dims4 (mod4 g y f a i j) k c hh ww :=
  ⟨(length_modAt ..).trans hy.1, forall_mem_modAt (P := (Dims3 · c hh ww)) (fun _ => dims3_mod3) hy.2⟩

theorem dims3_replicate3 (c hh ww : Nat) (v : β) : Dims3 (replicate3 c hh ww v) c hh ww := by
  unfold replicate3 replicate2
  refine ⟨List.length_replicate, fun m hm => ?_⟩
  rw [List.eq_of_mem_replicate hm]
  refine ⟨List.length_replicate, fun r hr => ?_⟩
  rw [List.eq_of_mem_replicate hr, List.length_replicate]

theorem dims4_replicate4 (k c hh ww : Nat) (v : β) : Dims4 (replicate4 k c hh ww v) k c hh ww := by
  unfold replicate4
  refine ⟨List.length_replicate, fun t ht => ?_⟩
  rw [List.eq_of_mem_replicate ht]
  exact dims3_replicate3 c hh ww v

/-- taking `n` after dropping `p` from `n + 2p` leaves `n` -/
theorem min_crop (n p : Nat) : min n (n + 2 * p - p) = n := by
  rw [Nat.two_mul, ← Nat.add_assoc, Nat.add_sub_cancel, Nat.min_eq_left (Nat.le_add_right n p)]

/-- cropping the padding frame gives the input's extents: **the input gradient has the input's shape** -/
theorem conv_crop_dims (l : Conv β) {pg : V3 β} {kc ih iw : Nat}
    (hpg : Dims3 pg kc (ih + 2 * l.padding.1) (iw + 2 * l.padding.2)) : Dims3 (Conv.crop l pg ih iw) kc ih iw := by
  unfold Conv.crop
  refine ⟨by rw [List.length_map, hpg.1], List.forall_mem_map.mpr fun ch hch => ?_⟩
  have hd := hpg.2 ch hch
  refine ⟨by rw [List.length_map, List.length_take, List.length_drop, hd.1, min_crop],
    List.forall_mem_map.mpr fun row hrow => ?_⟩
  rw [List.length_take, List.length_drop, hd.2 row (List.mem_of_mem_drop (List.mem_of_mem_take hrow)), min_crop]

theorem triple_shape {v : V3 β} {c h w : Nat} (hv : Dims3 v c h w) {t : Tensor β} (ht : Tensor.triple v = .ok t) :
    t.shape = .triple c h w := by
  unfold Tensor.triple at ht
  split at ht
  · cases ht
  · cases ht
  · rename_i r m rest
    cases ht
    obtain ⟨h1, h2⟩ := hv
    have := h2 (r :: m) (by simp)
    simp only [h1, this.1, this.2 r (by simp)]

variable {α : Type} [Scalar α]

theorem conv_paddedInputGrad_dims (l : Conv α) (ks : List (V3 α)) (delta : V3 α) (kf kc kh kw oh ow ph pw : Nat) :
    Dims3 (Conv.paddedInputGrad l ks delta kf kc kh kw oh ow ph pw) kc ph pw := by
  unfold Conv.paddedInputGrad
  refine foldl_inv (Dims3 · kc ph pw) (dims3_replicate3 kc ph pw 0) fun y hy f _ => ?_
  refine foldl_inv (Dims3 · kc ph pw) hy fun y hy c _ => ?_
  refine foldl_inv (Dims3 · kc ph pw) hy fun y hy h _ => ?_
  refine foldl_inv (Dims3 · kc ph pw) hy fun y hy w _ => ?_
  refine foldl_inv (Dims3 · kc ph pw) hy fun y hy t _ => ?_
  exact dims3_mod3 hy

theorem maxpool_route_dims (l : Maxpool α) (mx : MaxIdx) (og : V3 α) (pos : List (Nat × Nat × Nat)) (ic ih iw : Nat) :
    Dims3 (Maxpool.route l mx og pos ic ih iw) ic ih iw := by
  unfold Maxpool.route
  refine foldl_inv (Dims3 · ic ih iw) (dims3_replicate3 ic ih iw 0) fun y hy p _ => ?_
  refine foldl_inv (Dims3 · ic ih iw) hy fun y hy q _ => ?_
  exact dims3_mod3 hy

theorem maxpool_pool_dims (l : Maxpool α) (x : V3 α) (ih iw oc oh ow : Nat) (hs ws : List Nat) :
    Dims3 (Maxpool.pool l x ih iw oc oh ow hs ws).1 oc oh ow ∧ Dims3 (Maxpool.pool l x ih iw oc oh ow hs ws).2 oc oh ow := by
  unfold Maxpool.pool
  refine foldl_inv (fun s : V3 α × MaxIdx => Dims3 s.1 oc oh ow ∧ Dims3 s.2 oc oh ow)
    ⟨dims3_replicate3 oc oh ow 0, dims3_replicate3 oc oh ow [((0 : Nat), (0 : Nat))]⟩ fun s h c _ => ?_
  refine foldl_inv (fun s : V3 α × MaxIdx => Dims3 s.1 oc oh ow ∧ Dims3 s.2 oc oh ow) h fun s h hh _ => ?_
  refine foldl_inv (fun s : V3 α × MaxIdx => Dims3 s.1 oc oh ow ∧ Dims3 s.2 oc oh ow) h fun s h w _ => ?_
  exact ⟨dims3_mod3 h.1, dims3_mod3 h.2⟩

end Dims
