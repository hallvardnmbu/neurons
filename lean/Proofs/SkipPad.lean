import Proofs.SkipLinks

/-!
# Layers of different shapes inside one skip table: one universal vector type (C16)

`SkipNet` works with vectors of ONE index type and a position-indexed encoding.  Layers between different
shapes fit in by padding: the universal index type is the disjoint union `Σ k, T k` of the shapes that occur
(`k` ranges over a finite set of "slots"), a vector of shape `k` is padded with zeros in every other slot (`emb k`;
`proj k` reads slot `k`), a layer from slot `k₁` to slot `k₂` becomes `emb k₂ ∘ f ∘ proj k₁` (`liftLink`), and position
`j` is encoded by `enc (slot j) ∘ proj (slot j)` (`encAt`).
Two positions can be connected when they have the same slot.
-/

namespace SkipPad
open Network Scalar VJP LayerChain SkipWalk SkipNet

variable {K : Type} [Fintype K] [DecidableEq K] (T : K → Type) [∀ k, Fintype (T k)]

abbrev UIdx : Idx := ⟨Σ k, T k⟩

def proj (k : K) (u : V (Σ k, T k)) : V (T k) := fun a => u ⟨k, a⟩

def emb (k : K) (v : V (T k)) : V (Σ k, T k) := fun p => if h : p.1 = k then v (h ▸ p.2) else 0

set_option linter.unusedSectionVars false in
theorem proj_emb (k : K) (v : V (T k)) : proj T k (emb T k v) = v := by
  funext a
  simp [proj, emb]

set_option linter.unusedSectionVars false in
theorem proj_add (k : K) (u v : V (Σ k, T k)) : proj T k (u + v) = proj T k u + proj T k v := rfl

theorem dot_proj_emb (k : K) (u : V (Σ k, T k)) (v : V (T k)) : dot (proj T k u) v = dot u (emb T k v) := by
  classical
  unfold dot
  rw [Fintype.sum_sigma, Finset.sum_eq_single k]
  · apply Finset.sum_congr rfl
    intro a _
    simp [proj, emb]
  · intro k' _ hk'
    apply Finset.sum_eq_zero
    intro a _
    simp [emb, hk']
  · exact fun h => absurd (Finset.mem_univ k) h

theorem isVJP_proj (k : K) (u : V (Σ k, T k)) : IsVJP (proj T k) u (emb T k) :=
  IsVJP.of_adjoint _ _ (fun g v => by rw [dot_comm g, dot_proj_emb, dot_comm]) u

theorem isVJP_emb (k : K) (v : V (T k)) : IsVJP (emb T k) v (proj T k) :=
  IsVJP.of_adjoint _ _ (dot_proj_emb T k) v

theorem isVJP_lift (k₁ k₂ : K) (f : V (T k₁) → V (T k₂)) (b : V (T k₁) → V (T k₂) → V (T k₁)) (p : V (Σ k, T k))
    (hf : IsVJP f (proj T k₁ p) (b (proj T k₁ p))) :
    IsVJP (fun u => emb T k₂ (f (proj T k₁ u))) p (fun g => emb T k₁ (b (proj T k₁ p) (proj T k₂ g))) :=
  ((isVJP_proj T k₁ p).comp hf).comp (isVJP_emb T k₂ (f (proj T k₁ p)))

variable (enc : (k : K) → Enc ⟨T k⟩)

def encAt (k : K) : Enc (UIdx T) := fun u => enc k (proj T k u)

def liftLink (k₁ k₂ : K) (l : Layer ℝ) (f : V (T k₁) → V (T k₂)) (b : V (T k₁) → V (T k₂) → V (T k₁))
    (pre : V (T k₁) → Tensor ℝ) (rc : V (T k₁) → Recorded ℝ) (wg : V (T k₁) → V (T k₂) → WGrad ℝ × BGrad ℝ) : Link (UIdx T) where
  l := l
  f := fun u => emb T k₂ (f (proj T k₁ u))
  b := fun p g => emb T k₁ (b (proj T k₁ p) (proj T k₂ g))
  pre := fun p => pre (proj T k₁ p)
  rc := fun p => rc (proj T k₁ p)
  wg := fun p g => wg (proj T k₁ p) (proj T k₂ g)

/-- `e₁`, `e₂`: whatever encodes the two slots.  `h` is the obligation of `Link.Real` for a layer between two index types
    (`SkipTyped.TLink.Real`, `SkipTypedE.RealAt` and the conclusions of `ChainLinks.real_*` have this form). -/
theorem liftLink_real_enc (k₁ k₂ : K) (e₁ : Enc ⟨T k₁⟩) (e₂ : Enc ⟨T k₂⟩) (l : Layer ℝ) (f : V (T k₁) → V (T k₂))
    (b : V (T k₁) → V (T k₂) → V (T k₁)) (pre : V (T k₁) → Tensor ℝ) (rc : V (T k₁) → Recorded ℝ)
    (wg : V (T k₁) → V (T k₂) → WGrad ℝ × BGrad ℝ) (p : V (Σ k, T k))
    (h : layerForward l (e₁ (proj T k₁ p)) = .ok (pre (proj T k₁ p), e₂ (f (proj T k₁ p)), rc (proj T k₁ p)) ∧
      ∀ g, layerBackward l (e₂ g) (e₁ (proj T k₁ p)) (pre (proj T k₁ p)) (.ok (rc (proj T k₁ p))) =
        .ok (e₁ (b (proj T k₁ p) g), (wg (proj T k₁ p) g).1, (wg (proj T k₁ p) g).2)) :
    (liftLink T k₁ k₂ l f b pre rc wg).Real (m := UIdx T) (fun u => e₁ (proj T k₁ u)) (fun u => e₂ (proj T k₂ u)) p := by
  simp only [Link.Real, liftLink, proj_emb]
  exact ⟨h.1, fun g => h.2 _⟩

theorem liftLink_real (k₁ k₂ : K) (l : Layer ℝ) (f : V (T k₁) → V (T k₂)) (b : V (T k₁) → V (T k₂) → V (T k₁))
    (pre : V (T k₁) → Tensor ℝ) (rc : V (T k₁) → Recorded ℝ) (wg : V (T k₁) → V (T k₂) → WGrad ℝ × BGrad ℝ) (p : V (Σ k, T k))
    (h1 : layerForward l (enc k₁ (proj T k₁ p)) = .ok (pre (proj T k₁ p), enc k₂ (f (proj T k₁ p)), rc (proj T k₁ p)))
    (h2 : ∀ g, layerBackward l (enc k₂ g) (enc k₁ (proj T k₁ p)) (pre (proj T k₁ p)) (.ok (rc (proj T k₁ p))) =
      .ok (enc k₁ (b (proj T k₁ p) g), (wg (proj T k₁ p) g).1, (wg (proj T k₁ p) g).2)) :
    (liftLink T k₁ k₂ l f b pre rc wg).Real (encAt T enc k₁) (encAt T enc k₂) p :=
  liftLink_real_enc T k₁ k₂ (enc k₁) (enc k₂) l f b pre rc wg p ⟨h1, h2⟩

/-- two encodings of one slot (reached as `k` and as `k'`) that are compatible stay so over the universal type -/
theorem compat_proj {k k' : K} (hs : k' = k) (e1 : Enc ⟨T k⟩) (e2 : Enc ⟨T k'⟩) (h : Compat e1 (hs ▸ e2)) :
    Compat (m := UIdx T) (fun u => e1 (proj T k u)) (fun u => e2 (proj T k' u)) := by
  subst hs
  exact {
    fwd := fun u v => h.fwd (proj T k' u) (proj T k' v)
    bwd := fun u v => h.bwd (proj T k' u) (proj T k' v)
    self := fun heq u v => by
      have he : e1 = e2 := funext fun x => by
        have := congrFun heq (emb T k' x)
        rwa [proj_emb] at this
      exact h.self he (proj T k' u) (proj T k' v) }

theorem compat_same (k : K) (he : EncAdd (enc k)) : Compat (encAt T enc k) (encAt T enc k) :=
  compat_proj T rfl _ _ (compat_of_encAdd he)

/-- **the whole network is a list of links over the padded type** (no head, no tail): position `j` holds vectors of
    slot `slot j` in the encoding `enc j`; the input enters in slot `slot 0`, the output is read from slot `slot L` -/
theorem padded_network_gradient (enc : Nat → (k : K) → Enc ⟨T k⟩) (slot : Nat → K)
    (n : Network ℝ) (body : List (Link (UIdx T))) (tbl : List (Nat × Nat)) (L : Nat) (hL : body.length = L)
    (hl : n.layers = body.map (·.l))
    (hc : n.connect = tbl) (hacc : n.skipaccumulation = .add) (hlb : n.loopbacks = [])
    (hkeys : (tbl.map Prod.fst).Nodup) (hbd : ∀ e ∈ tbl, e.2 ≤ e.1 ∧ e.1 < L)
    (hcomp : ∀ t s, Assoc.find? tbl t = some s → Compat (encAt T (enc t) (slot t)) (encAt T (enc s) (slot s)))
    (x₀ : V (T (slot 0))) (ℓ : V (T (slot L)) → ℝ) (g₀ : V (T (slot L)))
    (hr : ∀ (j : Nat) lk, body[j]? = some lk →
      lk.Real (encAt T (enc j) (slot j)) (encAt T (enc (j + 1)) (slot (j + 1))) (SkipDag.P (dagNet body tbl) j (emb T (slot 0) x₀)))
    (hk : ∀ (j : Nat) lk, body[j]? = some lk → IsVJP lk.f
      (SkipDag.P (dagNet body tbl) j (emb T (slot 0) x₀)) (lk.b (SkipDag.P (dagNet body tbl) j (emb T (slot 0) x₀))))
    (hg : IsGrad ℓ (proj T (slot L) (SkipDag.U (dagNet body tbl) L (emb T (slot 0) x₀))) g₀) :
    ∃ t ws bs gs γ,
      n.forward (enc 0 (slot 0) x₀) = .ok t ∧
      t.act.getLast? = some (enc L (slot L) (proj T (slot L) (SkipDag.U (dagNet body tbl) L (emb T (slot 0) x₀)))) ∧
      n.backward (enc L (slot L) g₀) t = .ok (ws, bs, gs) ∧ gs.getLast? = some (enc 0 (slot 0) γ) ∧
      IsGrad (ℓ ∘ fun z => proj T (slot L) (SkipDag.U (dagNet body tbl) L (emb T (slot 0) z))) x₀ γ := by
  subst hL
  obtain ⟨t, ws, bs, gs, γ, _, h1, h2, h3, h4, h5, _⟩ :=
    dag_network_gradients (em := fun j => encAt T (enc j) (slot j)) (head := Chain.nil _ _) (tail := Chain.nil _ _)
      (IsDagNet.of_nil_head (hl.trans (List.append_nil _).symm) hc hacc hlb hkeys hbd) hcomp (emb T (slot 0) x₀)
      (headF := fun u => u) (fun _ => rfl) rfl (tailF := fun u => u) (fun _ => rfl) trivial hr trivial trivial hk trivial
      (ℓ ∘ proj T (slot body.length)) (emb T (slot body.length) g₀) (IsGrad.comp_vjp (isVJP_proj T (slot body.length) _) hg)
  have h6 := IsGrad.comp_vjp (isVJP_emb T (slot 0) x₀) h5
  simp only [encAt, proj_emb] at h1 h3
  exact ⟨t, ws, bs, gs, proj T (slot 0) γ, h1, h2, h3, h4, h6⟩

end SkipPad
