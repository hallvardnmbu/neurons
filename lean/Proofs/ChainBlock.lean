import Proofs.Chain
import Proofs.Feedback

/-!
# A feedback block (no internal skip connections) whose unrolled inner layers realise a chain of vector
functions: as a layer of the network it computes the chain's composition and hands back its reverse-mode
gradient (C01: feedback blocks of dense, convolution and deconvolution layers)

`Feedback::backward` of such a block is the plain reverse walk `blockBackSpec` over the unrolled layers (any
scalar type), and that is the network's reverse walk `Walk.backSpec` over the same layers, so the block's
gradient comes from `LayerChain.back_walk`.
-/

namespace BlockWalk
open Scalar Feedback

variable {α : Type} [Scalar α]

/-- the plain reverse walk over the unrolled `(index, layer)` pairs, given last first; results are
    `(input gradients, weight gradients, bias gradients)` in walk order -/
def blockBackSpec (unactivated activated : List (Tensor α)) : List (Nat × InnerLayer α) → Tensor α →
    Except Err (List (Tensor α) × List (Tensor α) × List (Option (Tensor α)))
  | [], _ => .ok ([], [], [])
  | il :: rest, g =>
    match L.get activated il.1, L.get unactivated il.1 with
    | .ok input, .ok output =>
      match innerBackward il.2 g input output with
      | .error e => .error e
      | .ok (ig, wg, bg) =>
        match blockBackSpec unactivated activated rest ig with
        | .error e => .error e
        | .ok (gs, ws, bs) => .ok (ig :: gs, wg :: ws, bg :: bs)
    | .error e, _ => .error e
    | _, .error e => .error e

theorem back_fold (n : Nat) (un act : List (Tensor α)) (ils : List (Nat × InnerLayer α)) (grads wgs : List (Tensor α))
    (bgs : List (Option (Tensor α))) (g : Tensor α) (hg : grads.getLast? = some g) :
    ils.foldl (backwardStep n [] un act) (.ok (grads, wgs, bgs)) =
      match blockBackSpec un act ils g with
      | .error e => .error e
      | .ok (gs, ws, bs) => .ok (grads ++ gs, wgs ++ ws, bgs ++ bs) := by
  induction ils generalizing grads wgs bgs g with
  | nil => simp [blockBackSpec]
  | cons il rest ih =>
    simp only [List.foldl_cons, blockBackSpec, backwardStep]
    cases L.get act il.1 with
    | error e => exact L.foldl_error fun _ _ => rfl
    | ok input =>
      cases L.get un il.1 with
      | error e => exact L.foldl_error fun _ _ => rfl
      | ok output =>
        simp only [withSkips, Assoc.find?, hg]
        cases innerBackward il.2 g input output with
        | error e => exact L.foldl_error fun _ _ => rfl
        | ok r =>
          simp only []
          rw [ih (grads ++ [r.1]) (wgs ++ [r.2.1]) (bgs ++ [r.2.2]) r.1 List.getLast?_concat]
          cases blockBackSpec un act rest r.1 with
          | error e => rfl
          | ok st => simp [List.append_assoc]

def lastGrad (g : Tensor α) (gs : List (Tensor α)) : Tensor α := (g :: gs).getLast (by simp)

omit [Scalar α] in
theorem lastGrad_eq (g : Tensor α) (gs : List (Tensor α)) : lastGrad g gs = gs.getLast?.getD g := by
  rw [lastGrad, List.getLast_eq_iff_getLast?_eq_some, List.getLast?_cons]

theorem backward_eq_blockBackSpec (f : Feedback α) (hc : f.connect = []) (g : Tensor α)
    (un act : List (Tensor α)) :
    f.backward g un act =
      match blockBackSpec un act (List.zip (List.range f.layers.length) f.layers).reverse g with
      | .error e => .error e
      | .ok (gs, ws, bs) => .ok (lastGrad g gs, ws, bs) := by
  have hinv : invertConnect f.connect = [] := by rw [hc]; rfl
  unfold Feedback.backward
  rw [hinv, back_fold f.layers.length un act _ [g] [] [] g (by simp)]
  cases blockBackSpec un act (List.zip (List.range f.layers.length) f.layers).reverse g with
  | error e => rfl
  | ok st =>
    obtain ⟨gs, ws, bs⟩ := st
    simp only [List.nil_append, List.singleton_append, List.getLast?_cons, lastGrad_eq]

end BlockWalk

/-! Nothing in this part of `DenseBlock` is particular to dense layers: `liftRes`, `layerBackward_ofInner`,
`blockBackSpec_eq_backSpec` and `backward_of_backSpec` are about any inner layers. -/

namespace DenseBlock
open Network Walk BlockWalk

/-- the block's results as the network's gradient records; also permutes `(gs, ws, bs)` into `(ws, bs, gs)`, the
    model's two tuple orders (`blockBackSpec` / `Feedback.backward` against `Walk.backSpec` / `Network.backward`) -/
def liftRes (r : Except Err (List (Tensor ℝ) × List (Tensor ℝ) × List (Option (Tensor ℝ)))) :
    Except Err (List (WGrad ℝ) × List (BGrad ℝ) × List (Tensor ℝ)) :=
  match r with
  | .error e => .error e
  | .ok (gs, ws, bs) => .ok (ws.map .one, bs.map .one, gs)

theorem layerBackward_ofInner (il : InnerLayer ℝ) (g i o : Tensor ℝ) (e : Err) :
    layerBackward (Layer.ofInner il) g i o (.error e) =
      match Feedback.innerBackward il g i o with
      | .error e => .error e
      | .ok (ig, wg, bg) => .ok (ig, .one wg, .one bg) := by
  cases il with
  | dense l | conv l | deconv l =>
    simp only [Layer.ofInner, layerBackward, Feedback.innerBackward]
    cases l.backward g i o <;> rfl
  | maxpool l => rfl

/-- **the block's reverse walk is the network's reverse walk over the same layers** (any inner layers) -/
theorem blockBackSpec_eq_backSpec (un act : List (Tensor ℝ)) :
    ∀ (ils : List (Nat × InnerLayer ℝ)) (g : Tensor ℝ),
    backSpec { pre := un, act := act, recs := [] } (ils.map fun il => (il.1, Layer.ofInner il.2)) g =
      liftRes (blockBackSpec un act ils g) := by
  intro ils
  induction ils with
  | nil => exact fun _ => rfl
  | cons il rest ih =>
    intro g
    simp only [List.map_cons, backSpec, blockBackSpec]
    -- a failed lookup is `Err.index` on both sides
    cases hi : L.get act il.1 with
    | error e => cases L.get_error hi; cases L.get un il.1 <;> rfl
    | ok input =>
      cases ho : L.get un il.1 with
      | error e => cases L.get_error ho; rfl
      | ok output =>
        simp only []
        have hr : L.get ([] : List (Recorded ℝ)) il.1 = .error .index := rfl
        rw [hr, layerBackward_ofInner]
        cases Feedback.innerBackward il.2 g input output with
        | error e => rfl
        | ok r =>
          simp only []
          rw [ih r.1]
          cases blockBackSpec un act rest r.1 <;> rfl

/-- `h` has the form of the conclusion of `LayerChain.back_walk` at `k = 0`, with the block's layers for `layers ch` -/
theorem backward_of_backSpec (f : Feedback ℝ) (hc : f.connect = []) {g : Tensor ℝ} {un act : List (Tensor ℝ)}
    {ws : List (WGrad ℝ)} {bs : List (BGrad ℝ)} {gs : List (Tensor ℝ)}
    (h : backSpec { pre := un, act := act, recs := [] }
      (List.zip (List.range' 0 (f.layers.map Layer.ofInner).length) (f.layers.map Layer.ofInner)).reverse g = .ok (ws, bs, gs)) :
    ∃ ws' bs', f.backward g un act = .ok (gs.getLast?.getD g, ws', bs') := by
  rw [List.length_map, List.zip_map_right, ← List.map_reverse, ← List.range_eq_range'] at h
  have hbr := (blockBackSpec_eq_backSpec un act _ g).symm.trans h
  rw [backward_eq_blockBackSpec f hc]
  cases hs : blockBackSpec un act (List.zip (List.range f.layers.length) f.layers).reverse g with
  | error e => rw [hs] at hbr; cases hbr
  | ok st =>
    obtain ⟨gs', ws', bs'⟩ := st
    rw [hs] at hbr
    cases hbr
    exact ⟨ws', bs', by simp only [lastGrad_eq]⟩

end DenseBlock

namespace ChainBlock
open Network Scalar VJP Walk FeedbackSpec BlockWalk LayerChain

/-- `Real` for the unrolled inner layers `ils` of a block: each is the chain's layer, announces the shape of what it
    receives (`Feedback.forwardStep` checks it), and its backward equation holds whatever recording it is handed
    (the block's walk hands it none: `DenseBlock.layerBackward_ofInner`) -/
def InnerReal : {a : Idx} → {ea : Enc a} → {c : Idx} → {ec : Enc c} → Chain a ea c ec → List (InnerLayer ℝ) → V a.T → Prop
  | _, _, _, _, .nil _ _, ils, _ => ils = []
  | _, ea, _, _, @Chain.cons _ _ _ _ eb _ l f bwd pre rc wg rest, ils, x =>
    ∃ il ilr, ils = il :: ilr ∧ Layer.ofInner il = l ∧ il.inputs = (ea x).shape ∧
      layerForward l (ea x) = .ok (pre x, eb (f x), rc x) ∧
      (∀ g r, layerBackward l (eb g) (ea x) (pre x) r = .ok (ea (bwd x g), (wg x g).1, (wg x g).2)) ∧
      InnerReal rest ilr (f x)

/-- the max-pool indices an inner layer records, read off what the same layer records in the network -/
def maxOf : Recorded ℝ → Option MaxIdx
  | .max m => some m
  | _ => none

theorem inner_forward_eq (il : InnerLayer ℝ) (x : Tensor ℝ) :
    il.forward x = match layerForward (Layer.ofInner il) x with
      | .error e => .error e
      | .ok (p, q, r) => .ok (p, q, maxOf r) := by
  cases il with
  | dense d | conv d | deconv d | maxpool d =>
    simp only [Layer.ofInner, layerForward, InnerLayer.forward]
    cases d.forward x <;> rfl

variable {a : Idx} {ea : Enc a} {c : Idx} {ec : Enc c}

theorem seqTrace_chain (ch : Chain a ea c ec) (ils : List (InnerLayer ℝ))
    (x : V a.T) (h : InnerReal ch ils x) : seqTrace ils (ea x) = .ok (pres ch x, acts ch x, (recs ch x).map maxOf) := by
  induction ch generalizing ils with
  | nil => simp only [InnerReal] at h; subst h; rfl
  | cons l f bwd pre rc wg rest ih =>
    obtain ⟨il, ilr, rfl, rfl, hsh, hf, _, hr⟩ := h
    simp only [seqTrace, hsh, ne_eq, not_true_eq_false, ↓reduceIte, inner_forward_eq, hf,
      ih ilr (f x) hr, pres, acts, recs, List.map_cons]

theorem innerReal_layers (ch : Chain a ea c ec) (ils : List (InnerLayer ℝ))
    (x : V a.T) (h : InnerReal ch ils x) : ils.map Layer.ofInner = layers ch := by
  induction ch generalizing ils with
  | nil => simp only [InnerReal] at h; subst h; rfl
  | cons l f bwd pre rc wg rest ih =>
    obtain ⟨il, ilr, rfl, hl, _, _, _, hr⟩ := h
    simp [LayerChain.layers, hl, ih ilr (f x) hr]

theorem BackReal.of_innerReal (t : Trace ℝ) (ch : Chain a ea c ec)
    (ils : List (InnerLayer ℝ)) (x : V a.T) (k : ℕ) (h : InnerReal ch ils x) : BackReal t ch x k := by
  induction ch generalizing ils k with
  | nil => trivial
  | cons l f bwd pre rc wg rest ih =>
    obtain ⟨il, ilr, rfl, _, _, _, hb, hr⟩ := h
    exact ⟨fun g => hb g _, ih ilr (f x) (k + 1) hr⟩

theorem pres_head (ch : Chain a ea c ec) (ils : List (InnerLayer ℝ)) (x : V a.T)
    (hr : InnerReal ch ils x) (hpos : ils ≠ []) : ∃ u0, (pres ch x).head? = some u0 := by
  cases ch with
  | nil => exact absurd hr hpos
  | cons => exact ⟨_, rfl⟩

structure IsChainBlock (f : Feedback ℝ) (ils : List (InnerLayer ℝ)) : Prop where
  layers : f.layers = ils
  connect : f.connect = []
  /-- with `true` the block puts out `(ec y).flatten` where the chain has `ec y`; `forwardAll_chain` allows that only
      for an encoding flattening leaves alone (`vecT`: `DenseBlock.block_forwardAll`) -/
  flatten : f.flatten = false

/-- a flatten flag is harmless when flattening leaves the output encoding alone (`hfl`) -/
theorem forwardAll_chain (f : Feedback ℝ) (ch : Chain a ea c ec)
    (ils : List (InnerLayer ℝ)) (x : V a.T) (hl : f.layers = ils) (hc : f.connect = [])
    (hfl : f.flatten = true → (ec ((gnet ch).fwd x)).flatten = .ok (ec ((gnet ch).fwd x)))
    (hr : InnerReal ch ils x) (hpos : ils ≠ []) :
    f.forwardAll (ea x) = .ok (pres ch x, ea x :: acts ch x, (recs ch x).map maxOf) := by
  obtain ⟨u0, hu0⟩ := pres_head ch ils x hr hpos
  unfold Feedback.forwardAll
  rw [hl, List.range_eq_range',
    noskip_fold f ils 0 [] [ea x] [] (ea x) rfl (fun q _ _ => by rw [hc]; rfl)]
  have hd : (ea x :: acts ch x).dropLast ++ [ec ((gnet ch).fwd x)] = ea x :: acts ch x :=
    List.dropLast_append_getLast? _ (LayerChain.acts_last ch x)
  simp only [segTrace, seqTrace_chain ch ils x hr, List.nil_append, List.singleton_append, LayerChain.acts_last ch x, hu0,
    Feedback.skipped, hc, Assoc.find?]
  by_cases h : f.flatten = true
  · simp only [h, ↓reduceIte, hfl h, hd]
  · simp only [h, Bool.false_eq_true, ↓reduceIte, hd]

theorem backward_chain (f : Feedback ℝ) (ch : Chain a ea c ec)
    (ils : List (InnerLayer ℝ)) (hl : f.layers = ils) (hc : f.connect = []) (x : V a.T) (hr : InnerReal ch ils x) (g : V c.T) :
    ∃ ws bs, f.backward (ec g) (pres ch x) (ea x :: acts ch x) = .ok (ea ((gnet ch).bwd x g), ws, bs) := by
  have h1 := back_walk ch x g 0 { pre := pres ch x, act := ea x :: acts ch x, recs := [] }
    (BackReal.of_innerReal _ ch ils x 0 hr) (sits_self _) (sits_self _)
  rw [← innerReal_layers ch ils x hr, ← hl] at h1
  obtain ⟨ws, bs, hb⟩ := DenseBlock.backward_of_backSpec f hc h1
  exact ⟨ws, bs, by rw [hb, handed_last]⟩

/-! ### the block as a link of an outer chain

The link's `pre`, `rc` and `wg` are read off what `Feedback.forward` / `Feedback.backward` return; their `.error`
branches are not reached under the hypotheses of `real_chain_block`. -/

noncomputable def blockPre {a : Idx} (ea : Enc a) (f : Feedback ℝ) (x : V a.T) : Tensor ℝ :=
  match f.forward (ea x) with
  | .ok (u0, _, _, _, _) => u0
  | .error _ => ea x

noncomputable def blockRecd {a : Idx} (ea : Enc a) (f : Feedback ℝ) (x : V a.T) : Recorded ℝ :=
  match f.forward (ea x) with
  | .ok (_, _, un, act, mx) => .block un act mx
  | .error _ => .none

noncomputable def blockWGs {a : Idx} {ea : Enc a} {c : Idx} {ec : Enc c} (f : Feedback ℝ) (ch : Chain a ea c ec)
    (x : V a.T) (g : V c.T) : WGrad ℝ × BGrad ℝ :=
  match f.backward (ec g) (pres ch x) (ea x :: acts ch x) with
  | .ok (_, ws, bs) => (.block ws, .block bs)
  | .error _ => (.block [], .block [])

noncomputable def consChainBlock {a : Idx} {ea : Enc a} {c : Idx} {ec : Enc c} {m : Idx} {em : Enc m}
    (f : Feedback ℝ) (ch : Chain a ea c ec) (rest : Chain c ec m em) : Chain a ea m em :=
  .cons (.feedback f) (gnet ch).fwd (gnet ch).bwd (blockPre ea f) (blockRecd ea f) (blockWGs f ch) rest

theorem real_chain_block (f : Feedback ℝ) (ch : Chain a ea c ec)
    (ils : List (InnerLayer ℝ)) (hf : IsChainBlock f ils) (x : V a.T) (hr : InnerReal ch ils x) (hpos : ils ≠ []) :
    layerForward (.feedback f) (ea x) = .ok (blockPre ea f x, ec ((gnet ch).fwd x), blockRecd ea f x) ∧
    ∀ g, layerBackward (.feedback f) (ec g) (ea x) (blockPre ea f x) (.ok (blockRecd ea f x)) =
      .ok (ea ((gnet ch).bwd x g), (blockWGs f ch x g).1, (blockWGs f ch x g).2) := by
  have hms := forwardAll_chain f ch ils x hf.layers hf.connect (fun h => by rw [hf.flatten] at h; cases h) hr hpos
  obtain ⟨u0, hu0⟩ := pres_head ch ils x hr hpos
  have hfw : f.forward (ea x) = .ok (u0, ec ((gnet ch).fwd x), pres ch x, ea x :: acts ch x, (recs ch x).map maxOf) := by
    simp only [Feedback.forward, hms, hu0, LayerChain.acts_last ch x]
  refine ⟨?_, fun g => ?_⟩
  · simp only [layerForward, blockPre, blockRecd, hfw]
  · obtain ⟨ws, bs, hb⟩ := backward_chain f ch ils hf.layers hf.connect x hr g
    simp only [layerBackward, blockRecd, blockWGs, hfw, hb]

end ChainBlock
