import Proofs.Box
import Proofs.ConvAdjoint

/-!
# The convolution's pre-activation map as a vector function, and its transposed Jacobians
-/

open Finset BigOperators

namespace ConvVJP
open VJP Adjoint Scatter

variable (l : Conv ℝ) (ks : List (V3 ℝ)) (kf kc kh kw ih iw oh ow : ℕ)

/-- the convolution's pre-activation as a function of the (unpadded) input, for a kernel list `ks`: the
    zero-padded, strided, dilated cross-correlation (`C02.conv_cross_correlation` shows this is what the model's
    `convolveAt` computes on the padded input).  `ConvBridge.pre` is this at the kernels `toList4 K` of a layer. -/
noncomputable def convPre (x : V (I3 kc ih iw)) : V (I3 kf oh ow) := fun fmn =>
  ∑ cc ∈ range kc, ∑ h ∈ range kh, ∑ w ∈ range kw,
    L.get3D 0 (ks.getD fmn.1 []) cc h w *
      (if l.padding.1 ≤ fmn.2.1 * l.stride.1 + h * l.dilation.1 ∧ fmn.2.1 * l.stride.1 + h * l.dilation.1 < l.padding.1 + ih ∧
          l.padding.2 ≤ fmn.2.2 * l.stride.2 + w * l.dilation.2 ∧ fmn.2.2 * l.stride.2 + w * l.dilation.2 < l.padding.2 + iw
       then L.get3D 0 (toList3 x) cc (fmn.2.1 * l.stride.1 + h * l.dilation.1 - l.padding.1)
              (fmn.2.2 * l.stride.2 + w * l.dilation.2 - l.padding.2)
       else 0)

theorem convolveAt_pad (hkc : 0 < kc) (hih : 0 < ih) (x : V (I3 kc ih iw)) (xp : V3 ℝ)
    (hp : Tensor.pad3d (toList3 x) (ih + 2 * l.padding.1) (iw + 2 * l.padding.2) = .ok xp) (p : I3 kf oh ow) :
    Conv.convolveAt l xp (ks.getD p.1 []) kc kh kw (ih + 2 * l.padding.1) (iw + 2 * l.padding.2) p.2.1 p.2.2 =
      convPre l ks kf kc kh kw ih iw oh ow x p := by
  obtain ⟨xp', hp', hform⟩ := C02.conv_cross_correlation l (toList3 x) kc ih iw (toList3_dims x) hkc hih
    (ks.getD p.1 []) kc kh kw p.2.1 p.2.2
  rw [hp] at hp'
  cases hp'
  exact hform

/-- the input gradient the model's backward pass computes from a gradient `g` of the pre-activation, as a vector:
    crop of the padded scatter.  `ChainLinks.convBwdX` is the layer's, activation included. -/
noncomputable def convBwd (g : V (I3 kf oh ow)) : V (I3 kc ih iw) := fun cij =>
  L.get3D 0 (Conv.crop l (Conv.paddedInputGrad l ks (toList3 g) kf kc kh kw oh ow
    (ih + 2 * l.padding.1) (iw + 2 * l.padding.2)) ih iw) cij.1 cij.2.1 cij.2.2

/-- **the convolution's pre-activation map is differentiable with the model's backward pass as its
    transposed Jacobian** — for every stride, dilation, padding, kernel size, channel and filter count -/
theorem conv_isVJP (hkc : 0 < kc) (hih : 0 < ih) (x : V (I3 kc ih iw)) :
    IsVJP (convPre l ks kf kc kh kw ih iw oh ow) x (convBwd l ks kf kc kh kw ih iw oh ow) := by
  refine IsVJP.of_adjoint _ _ (fun g v => ?_) x
  obtain ⟨vp, hp, hget⟩ := C02.pad3d_get (toList3 v) kc ih iw l.padding.1 l.padding.2 (toList3_dims v) hkc hih
  -- backward: crop is the adjoint of pad, the scatter is the adjoint of the gather on the padded direction
  have hb : convBwd l ks kf kc kh kw ih iw oh ow g = rd3 (Conv.crop l (Conv.paddedInputGrad l ks (toList3 g)
      kf kc kh kw oh ow (ih + 2 * l.padding.1) (iw + 2 * l.padding.2)) ih iw) := rfl
  rw [hb, dot_rd3_left, ← ConvAdjoint.pad_crop_adjoint l _ (toList3 v) vp kc ih iw hget,
    ← ConvAdjoint.padded_input_adjoint]
  -- forward: `convolveAt` on the padded direction is `convPre v`
  rw [← sum_I3 (fun f m n => L.get3D 0 (toList3 g) f m n *
    Conv.convolveAt l vp (ks.getD f []) kc kh kw (ih + 2 * l.padding.1) (iw + 2 * l.padding.2) m n)]
  apply Finset.sum_congr rfl; intro p _
  rw [get3D_toList3_fin, convolveAt_pad l ks kf kc kh kw ih iw oh ow hkc hih v vp hp p]

/-- **the convolution layer** (`act ∘ conv`, activation differentiable at every pre-activation): the
    gradient handed to the preceding layer is `crop(scatter(K, act′(pre) ⊙ g))`, exactly what
    `Convolution::backward` computes -/
theorem conv_layer_isVJP (a a' : ℝ → ℝ) (hkc : 0 < kc) (hih : 0 < ih) (x : V (I3 kc ih iw))
    (ha : ∀ i, HasDerivAt a (a' (convPre l ks kf kc kh kw ih iw oh ow x i)) (convPre l ks kf kc kh kw ih iw oh ow x i)) :
    IsVJP (fun y => fun i => a (convPre l ks kf kc kh kw ih iw oh ow y i)) x
      (fun g => convBwd l ks kf kc kh kw ih iw oh ow (fun i => a' (convPre l ks kf kc kh kw ih iw oh ow x i) * g i)) :=
  isVJP_elementwise _ x _ a a' (conv_isVJP l ks kf kc kh kw ih iw oh ow hkc hih x) ha

variable (xp : V3 ℝ) (ph pw : ℕ)

/-- the pre-activation as a function of the kernels (input fixed): literally the model's `convolveAt` -/
noncomputable def convPreK (K : V (I4 kf kc kh kw)) : V (I3 kf oh ow) := fun fmn =>
  Conv.convolveAt l xp ((toList4 K).getD fmn.1 []) kc kh kw ph pw fmn.2.1 fmn.2.2

/-- the kernel gradient the model's backward pass computes from a gradient `g` of the pre-activation, as a vector
    (`xp` is the padded input).  `ChainLinks.convBwdKer` is the layer's, activation included. -/
noncomputable def convBwdK (g : V (I3 kf oh ow)) : V (I4 kf kc kh kw) := fun fchw =>
  L.get4D 0 (Conv.kernelGrad l xp (toList3 g) kf kc kh kw oh ow ph pw) fchw.1 fchw.2.1 fchw.2.2.1 fchw.2.2.2

/-- **the pre-activation as a function of the kernels has the model's kernel gradient as its transposed
    Jacobian** -/
theorem conv_kernel_isVJP (K : V (I4 kf kc kh kw)) :
    IsVJP (convPreK l kf kc kh kw oh ow xp ph pw) K (convBwdK l kf kc kh kw oh ow xp ph pw) := by
  refine IsVJP.of_adjoint _ _ (fun g v => ?_) K
  -- the adjoint identity of the model's kernel gradient, its two sides read as sums over the boxes
  have hadj := ConvAdjoint.kernel_adjoint l (toList4 v) (toList3 g) xp kf kc kh kw oh ow ph pw
  rw [← sum_I3 (fun f m n => L.get3D 0 (toList3 g) f m n *
      Conv.convolveAt l xp ((toList4 v).getD f []) kc kh kw ph pw m n),
    ← sum_I4 (fun f c h w => L.get4D 0 (Conv.kernelGrad l xp (toList3 g) kf kc kh kw oh ow ph pw) f c h w *
      L.get4D 0 (toList4 v) f c h w)] at hadj
  simp only [get3D_toList3_fin, get4D_toList4_fin] at hadj
  exact hadj.symm

end ConvVJP
